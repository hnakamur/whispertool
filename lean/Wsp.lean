import Wsp.Generated.Facts
import Wsp.Model.Arith
import Wsp.Model.Bytes
import Wsp.Model.Cmd
import Wsp.Model.Codec
import Wsp.Model.Gen
import Wsp.Model.Recreate
import Wsp.Model.Text
import Wsp.Model.Value
import Wsp.Model.Whisper
import Wsp.Model.World
import Wsp.Proofs.Batch
import Wsp.Proofs.BytesLemmas
import Wsp.Proofs.Calendar
import Wsp.Proofs.CodecLemmas
import Wsp.Proofs.Frame
import Wsp.Proofs.Layout
import Wsp.Proofs.NoPanic
import Wsp.Proofs.OpenLemmas
import Wsp.Proofs.Ring
import Wsp.Proofs.Slots
import Wsp.Proofs.TextLemmas
import Wsp.Proofs.Update
import Wsp.Proofs.ValidateLemmas
import Wsp.Proofs.Zone
import Wsp.Props.C01
import Wsp.Props.C01All
import Wsp.Props.C01Batch
import Wsp.Props.C01History
import Wsp.Props.C01System
import Wsp.Props.C02
import Wsp.Props.C02Batch
import Wsp.Props.C02Local
import Wsp.Props.C02LocalHist
import Wsp.Props.C02System
import Wsp.Props.C03
import Wsp.Props.C03Success
import Wsp.Props.C03World
import Wsp.Props.C04
import Wsp.Props.C05
import Wsp.Props.C05Cli
import Wsp.Props.C06
import Wsp.Props.C06Ref
import Wsp.Props.C07
import Wsp.Props.C08
import Wsp.Props.C08All
import Wsp.Props.C08Dest
import Wsp.Props.C08Full
import Wsp.Props.C08Plain
import Wsp.Props.C09
import Wsp.Props.C10
import Wsp.Props.C11
import Wsp.Props.C11Plain
import Wsp.Props.C12
import Wsp.Props.C12View
import Wsp.Props.C13
import Wsp.Props.C14
import Wsp.Props.C15
import Wsp.Props.C16
import Wsp.Props.C16Glob
import Wsp.Props.C16Total
import Wsp.Props.C16Write
import Wsp.Props.C17
import Wsp.Props.C18
import Wsp.Props.C18Cmd
import Wsp.Props.C19
import Wsp.Props.C19List
import Wsp.Props.C20
import Wsp.Props.C20Values
import Wsp.Props.CmdBasics
import Wsp.Props.FactsTie
import Wsp.Props.Invariant
import Wsp.Props.Reopen
import Wsp.Props.Total
import Wsp.Spec.Oracles
