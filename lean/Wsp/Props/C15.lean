/-
  C15  Corrupt or hostile bytes are rejected with an error, never a crash.

  For every byte string each decoder returns `ok`, an error or `wantLarger n` — never a
  panic; a `wantLarger n` always names more than it was given; and the number of
  elements a decoder allocates (ghost `…Alloc`, mirroring where Go calls `make`) times
  the element's wire size never exceeds the input length.  `Open` on arbitrary bytes
  never panics and never reads or allocates beyond the file.
-/
import Wsp.Proofs.OpenLemmas
-- the default `split` re-simplifies the nested `if`s at every level: exponential in the depth of the decoders' if-chains
set_option backward.split false
namespace Wsp.C15

def NoPanic {α} (r : R α) : Prop := ∀ w, r ≠ .error (.panic w)

def SaneWant {α} (r : R α) (given : Nat) : Prop := ∀ n : Int, r = .error (.wantLarger n) → (given : Int) < n

/-! the three kinds of result a decoder has -/

theorem total_ok {α} (x : α) (given : Nat) : NoPanic (.ok x : R α) ∧ SaneWant (.ok x : R α) given :=
  ⟨fun _ => (nomatch ·), fun _ => (nomatch ·)⟩

theorem total_err {α} (k : ErrKind) (given : Nat) :
    NoPanic (.error (.err k) : R α) ∧ SaneWant (.error (.err k) : R α) given :=
  ⟨fun _ => (nomatch ·), fun _ => (nomatch ·)⟩

theorem total_want {α} {n : Int} {given : Nat} (h : (given : Int) < n) :
    NoPanic (.error (.wantLarger n) : R α) ∧ SaneWant (.error (.wantLarger n) : R α) given :=
  ⟨fun _ => (nomatch ·), fun _ e => by cases e; exact h⟩

theorem fixedDec_total {α} (n : Nat) (f : Bytes → α) (src : Bytes) :
    NoPanic (fixedDec n f src) ∧ SaneWant (fixedDec n f src) src.length := by
  unfold fixedDec NoPanic SaneWant
  split <;> simp <;> omega

theorem decTimestamp_total (src : Bytes) : NoPanic (decTimestamp src) ∧ SaneWant (decTimestamp src) src.length :=
  decTimestamp_fixed ▸ fixedDec_total ..

theorem decDuration_total (src : Bytes) : NoPanic (decDuration src) ∧ SaneWant (decDuration src) src.length :=
  decDuration_fixed ▸ fixedDec_total ..

theorem decValue_total (src : Bytes) : NoPanic (decValue src) ∧ SaneWant (decValue src) src.length :=
  decValue_fixed ▸ fixedDec_total ..

theorem decPoint_total (src : Bytes) : NoPanic (decPoint src) ∧ SaneWant (decPoint src) src.length :=
  decPoint_fixed ▸ fixedDec_total ..

theorem decArch_total (src : Bytes) : NoPanic (decArch src) ∧ SaneWant (decArch src) src.length :=
  decArch_fixed ▸ fixedDec_total ..

theorem decPoints_total (src : Bytes) : NoPanic (decPoints src) ∧ SaneWant (decPoints src) src.length := by
  rcases decPoints_cases src with ⟨h, e, -⟩ | ⟨-, -, e, -⟩ | ⟨-, -, h, e, -⟩ | ⟨-, -, h, e, -⟩ <;> rw [e]
  · exact total_want (Int.ofNat_lt.2 h)
  · exact total_err ..
  · exact total_want (Int.ofNat_lt.2 h)
  · obtain ⟨ps, rest, hv, -⟩ := decPointsBody_ok (de64Nat src) (src.drop 8) (by rw [List.length_drop]; omega)
    rw [hv]
    exact total_ok ..

theorem decSeries_total (src : Bytes) : NoPanic (decSeries src) ∧ SaneWant (decSeries src) src.length := by
  unfold decSeries
  dsimp only
  split
  · rename_i h; exact total_want (Int.ofNat_lt.2 h)
  · split
    · exact total_ok ..
    · split
      · exact total_err ..
      · split
        · exact total_err ..
        · generalize (Int.tdiv _ _).toNat = n
          split
          · rename_i hw; exact total_want (by rw [List.length_drop] at hw; omega)
          · rename_i hw
            obtain ⟨vs, rest, hv⟩ := decValues_ok n (src.drop 12) (Nat.le_of_not_lt hw)
            rw [hv]
            exact total_ok ..

theorem decHeader_total (o : FOps) (src : Bytes) :
    NoPanic (decHeader o src) ∧ SaneWant (decHeader o src) src.length := by
  constructor
  · intro w h
    rcases decHeader_error h with h | ⟨_, h, _⟩ <;> cases h
  · intro n h
    rcases decHeader_error h with h | ⟨_, h, hl⟩ <;> cases h; omega

/-! ### allocation is bounded by the input (no count field can make a decoder allocate
    more than the bytes it was handed) -/

theorem decPoints_alloc_bounded (src : Bytes) : decPointsAlloc src * 12 ≤ src.length := by
  rcases decPoints_cases src with ⟨-, -, e⟩ | ⟨-, -, -, e⟩ | ⟨-, -, -, -, e⟩ | ⟨-, -, h, -, e⟩ <;> rw [e] <;> omega

theorem decSeries_alloc_bounded (src : Bytes) : decSeriesAlloc src * 8 ≤ src.length := by
  unfold decSeriesAlloc
  dsimp only
  -- a test that fails allocates nothing
  iterate 4 (split; · exact Nat.zero_le _)
  split
  · exact Nat.zero_le _
  · rename_i h; exact Nat.le_trans (Nat.le_of_not_lt h) (List.drop_sublist ..).length_le

theorem decHeader_alloc_bounded (o : FOps) (src : Bytes) : decHeaderAlloc o src * 12 ≤ src.length := by
  unfold decHeaderAlloc
  dsimp only
  iterate 3 (split; · exact Nat.zero_le _)
  split
  · exact Nat.zero_le _
  · rename_i h; exact Nat.le_trans (Nat.le_of_not_lt h) (List.drop_sublist ..).length_le

/-- the ghost allocation is what the decoder really produces when it succeeds -/
theorem decPoints_alloc_exact (src : Bytes) (ps : List Point) (rest : Bytes)
    (h : decPoints src = .ok (ps, rest)) : ps.length = decPointsAlloc src := by
  rcases decPoints_cases src with ⟨-, e, -⟩ | ⟨-, -, e, -⟩ | ⟨-, -, -, e, -⟩ | ⟨-, -, hl, e, ea⟩
  iterate 3 rw [e] at h; cases h
  obtain ⟨ps', rest', hv, hl⟩ := decPointsBody_ok (de64Nat src) (src.drop 8) (by simp; omega)
  rw [e, hv] at h
  cases h
  rw [ea, hl]

theorem readHeader_total (o : FOps) (view : Bytes) (ps : Nat) : NoPanic (readHeader o view ps) :=
  fun w h => readHeader_error h w rfl

theorem open_total (o : FOps) (bytes : Bytes) (ps : Nat) : NoPanic (openBytes o bytes ps) :=
  fun w h => openBytes_error h w rfl

/-- any successful `readAt` lies inside the bytes it reads from; `Open` reads only through `readAt` -/
theorem open_never_reads_past_file (view : Bytes) (off len : Nat) (b : Bytes)
    (h : readAt view off len = .ok b) : off + len ≤ view.length := by
  unfold readAt at h; split at h <;> simp_all

/-- a file that opens is at least as long as its header says -/
theorem opened_file_is_long_enough (o : FOps) (bytes : Bytes) (ps : Nat) (h : Handle)
    (ho : openBytes o bytes ps = .ok h) : h.hdr.expectedFileSize ≤ h.view.length ∧ h.view = bytes := by
  obtain ⟨-, hv, hl⟩ := openBytes_ok.1 ho
  exact ⟨hv ▸ hl, hv⟩

end Wsp.C15
