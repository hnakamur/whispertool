/-
  Locality of whole single updates and of their histories (C01 / C02 / C03).

  Whatever the file held — any history, any bytes a validated header allows — an accepted
  single update `(t, v)`, to "best" or to a named archive, changes at most one slot in the
  archive it is routed to (afterwards stamped with the aligned interval of `t`), at most one
  in each archive behind it (stamped with that level's interval of the chain, `chainTime`),
  and nothing else.  Over a history of such updates, a slot that differs from what it was is
  stamped with an interval that one of the updates touches at that level (`TouchesAt`,
  `Touches` for "best").

  What "the interval of the chain" is: on a layout whose steps are positive and each divide
  the next (`ChainWF`, true of every validated header: `good_chainWF`), the stamp left at level
  `m` is the one interval of that level's grid that contains the update's time.  So a slot of
  a coarser archive changes only through updates whose time lies inside the coarse interval the
  slot is then stamped with.
-/
import Wsp.Props.C02Local
import Wsp.Props.C03Success
namespace Wsp.C02S
open Wsp.Handle Wsp.C14 Wsp.Total Wsp.C01 Wsp.Inv

/-- an accepted single update, whatever the id: the direct write to the routed archive, then
    the chain from there -/
theorem single_route_any (o : FOps) (h h' : Handle) (k : Int) (t : Nat) (v : Val) (now : Nat)
    (hok : h.updatePoint o k t v now = .ok h') :
    ∃ a off hm, h.archs[routed h k t now]? = some a ∧
      h.getPointOffset (a.intervalForWrite t) a = .ok off ∧
      h.putPointAt ⟨a.intervalForWrite t, v⟩ off = .ok hm ∧
      propagateChain o hm (routed h k t now) [⟨a.intervalForWrite t, v⟩] = .ok h' :=
  (updatePoint_eq_ok hok).2

theorem write_then_chain_local (o : FOps) (h hm h' : Handle) (g : Good h) (k : Nat) (a : Arch)
    (t : Nat) (v : Val) (off : Nat) (ha : h.archs[k]? = some a)
    (hg : h.getPointOffset (a.intervalForWrite t) a = .ok off)
    (hput : h.putPointAt ⟨a.intervalForWrite t, v⟩ off = .ok hm)
    (hch : propagateChain o hm k [⟨a.intervalForWrite t, v⟩] = .ok h') :
    ∀ (m : Nat) (b : Arch) (j : Nat), h.archs[m]? = some b → j < b.n →
      slotAt h' b j ≠ slotAt h b j →
      k ≤ m ∧
      (m = k → (slotAt h' b j).t = a.intervalForWrite t) ∧
      (k < m → ∃ l, h.archs[k + 1]? = some l ∧
        (slotAt h' b j).t = chainTime h.archs (k + 1)
          (l.intervalForWrite (a.intervalForWrite t)) h.archs.length m) := by
  have l1 := Local.write g ha (intervalForWrite_lt a t) hg hput
  have l2 := Local.propagateChain_single (l1.good g) hch
  rw [l1.archs] at l2
  suffices l : Local (fun m T => k ≤ m ∧ (m = k → T = a.intervalForWrite t) ∧
      (k < m → ∃ l, h.archs[k + 1]? = some l ∧ T = chainTime h.archs (k + 1)
        (l.intervalForWrite (a.intervalForWrite t)) h.archs.length m)) h h' from l.2
  exact (l1.mono fun m T ⟨e, eT⟩ => ⟨Nat.le_of_eq e.symm, fun _ => eT, fun hlt => absurd e (Nat.ne_of_gt hlt)⟩).trans
    (l2.mono fun m T ⟨hkm, hl⟩ => ⟨Nat.le_of_succ_le hkm, fun e => absurd e (Nat.ne_of_gt hkm), fun _ => hl⟩)

/-- **locality of an accepted single update, for every archive id** -/
theorem updatePoint_local_any (o : FOps) (h h' : Handle) (g : Good h) (k : Int) (t : Nat) (v : Val) (now : Nat)
    (hok : h.updatePoint o k t v now = .ok h') :
    ∃ a, h.archs[routed h k t now]? = some a ∧
    ∀ (m : Nat) (b : Arch) (j : Nat), h.archs[m]? = some b → j < b.n →
      slotAt h' b j ≠ slotAt h b j →
      routed h k t now ≤ m ∧
      (m = routed h k t now → (slotAt h' b j).t = a.intervalForWrite t) ∧
      (routed h k t now < m → ∃ l, h.archs[routed h k t now + 1]? = some l ∧
        (slotAt h' b j).t = chainTime h.archs (routed h k t now + 1)
          (l.intervalForWrite (a.intervalForWrite t)) h.archs.length m) := by
  obtain ⟨a, off, hm, ha, hg, hput, hch⟩ := single_route_any o h h' k t v now hok
  exact ⟨a, ha, write_then_chain_local o h hm h' g _ a t v off ha hg hput hch⟩

theorem updatePoint_local (o : FOps) (h h' : Handle) (g : Good h) (t : Nat) (v : Val) (now : Nat)
    (hok : h.updatePoint o (-1) t v now = .ok h') :
    ∃ a, h.archs[h.findBestArchive t now]? = some a ∧
    ∀ (m : Nat) (b : Arch) (j : Nat), h.archs[m]? = some b → j < b.n →
      slotAt h' b j ≠ slotAt h b j →
      h.findBestArchive t now ≤ m ∧
      (m = h.findBestArchive t now → (slotAt h' b j).t = a.intervalForWrite t) ∧
      (h.findBestArchive t now < m → ∃ l, h.archs[h.findBestArchive t now + 1]? = some l ∧
        (slotAt h' b j).t = chainTime h.archs (h.findBestArchive t now + 1)
          (l.intervalForWrite (a.intervalForWrite t)) h.archs.length m) :=
  updatePoint_local_any o h h' g (-1) t v now hok

/-- the stamp a single update at time `t` written to archive `k` may leave in archive `m` -/
def TouchesAt (as : List Arch) (k t m T : Nat) : Prop :=
  ∃ a, as[k]? = some a ∧ k ≤ m ∧
    (m = k → T = a.intervalForWrite t) ∧
    (k < m → ∃ l, as[k + 1]? = some l ∧
      T = chainTime as (k + 1) (l.intervalForWrite (a.intervalForWrite t)) as.length m)

/-- the archive index an id routes to, as a function of the archive list -/
def routedIn (as : List Arch) (k : Int) (t now : Nat) : Nat :=
  if k = -1 then findBestFrom (tsSub now t) 0 as else k.toNat

theorem Local.updatePoint {o : FOps} {h h' : Handle} (g : Good h) {k : Int} {t : Nat} {v : Val} {now : Nat}
    (hok : h.updatePoint o k t v now = .ok h') :
    Local (TouchesAt h.archs (routedIn h.archs k t now) t) h h' := by
  obtain ⟨a, ha, hloc⟩ := updatePoint_local_any o h h' g k t v now hok
  exact ⟨(updatePoint_frame o h h' g.placed k t v now hok).1, fun m b j hb hj hne => ⟨a, ha, hloc m b j hb hj hne⟩⟩

/-- a history of single updates, each with its own archive id: `(k, t, v, now)` -/
def runSinglesAny (o : FOps) : Handle → List (Int × Nat × Val × Nat) → R Handle
  | h, [] => .ok h
  | h, (k, t, v, now) :: rest =>
    match h.updatePoint o k t v now with
    | .error e => .error e
    | .ok h1 => runSinglesAny o h1 rest

theorem history_local_any (o : FOps) : ∀ (ops : List (Int × Nat × Val × Nat)) (h h' : Handle), Good h →
    runSinglesAny o h ops = .ok h' →
    h'.archs = h.archs ∧
    ∀ (m : Nat) (b : Arch) (j : Nat), h.archs[m]? = some b → j < b.n →
      slotAt h' b j ≠ slotAt h b j →
      ∃ op ∈ ops, TouchesAt h.archs (routedIn h.archs op.1 op.2.1 op.2.2.2) op.2.1 m (slotAt h' b j).t := by
  intro ops h h' g hr
  suffices l : Local (fun m T => ∃ op ∈ ops, TouchesAt h.archs (routedIn h.archs op.1 op.2.1 op.2.2.2) op.2.1 m T) h h' from
    ⟨l.archs, l.2⟩
  induction ops generalizing h with
  | nil => cases hr; exact Local.refl
  | cons op rest ih =>
    obtain ⟨k, t, v, now⟩ := op
    simp only [runSinglesAny] at hr
    split at hr
    · cases hr
    · rename_i h1 h1e
      have l1 := Local.updatePoint g h1e
      have l2 := ih h1 (l1.good g) hr
      rw [l1.archs] at l2
      exact (l1.mono fun m T hT => ⟨_, List.mem_cons_self, hT⟩).trans
        (l2.mono fun m T ⟨op, hop, hT⟩ => ⟨op, List.mem_cons_of_mem _ hop, hT⟩)

/-- non-vacuity of `TouchesAt`: 60 s / 300 s archives, a write at 425 s to archive 0 touches
    the interval 300 of archive 1 -/
example : TouchesAt [⟨0, 60, 10⟩, ⟨0, 300, 10⟩] 0 425 1 300 :=
  ⟨⟨0, 60, 10⟩, rfl, by decide, fun h => absurd h (by decide),
    fun _ => ⟨⟨0, 300, 10⟩, rfl, by decide⟩⟩

/-- the stamp a single update at `(t, now)` may leave in archive `m` of a file with archive
    list `as` -/
def Touches (as : List Arch) (t now m T : Nat) : Prop :=
  ∃ a, as[findBestFrom (tsSub now t) 0 as]? = some a ∧
    findBestFrom (tsSub now t) 0 as ≤ m ∧
    (m = findBestFrom (tsSub now t) 0 as → T = a.intervalForWrite t) ∧
    (findBestFrom (tsSub now t) 0 as < m → ∃ l, as[findBestFrom (tsSub now t) 0 as + 1]? = some l ∧
      T = chainTime as (findBestFrom (tsSub now t) 0 as + 1)
        (l.intervalForWrite (a.intervalForWrite t)) as.length m)

/-- a history of single updates through "best" routing: `(t, v, now)` each -/
def runSingles (o : FOps) : Handle → List (Nat × Val × Nat) → R Handle
  | h, [] => .ok h
  | h, (t, v, now) :: rest =>
    match h.updatePoint o (-1) t v now with
    | .error e => .error e
    | .ok h1 => runSingles o h1 rest

theorem runSingles_eq_any (o : FOps) (ops : List (Nat × Val × Nat)) (h : Handle) :
    runSingles o h ops = runSinglesAny o h (ops.map fun op => (-1, op)) := by
  induction ops generalizing h with
  | nil => rfl
  | cons op rest ih => simp only [runSingles, List.map_cons, runSinglesAny, ih]

theorem history_local (o : FOps) : ∀ (ops : List (Nat × Val × Nat)) (h h' : Handle), Good h →
    runSingles o h ops = .ok h' →
    h'.archs = h.archs ∧
    ∀ (m : Nat) (b : Arch) (j : Nat), h.archs[m]? = some b → j < b.n →
      slotAt h' b j ≠ slotAt h b j →
      ∃ op ∈ ops, Touches h.archs op.1 op.2.2 m (slotAt h' b j).t := by
  intro ops h h' g hr
  rw [runSingles_eq_any] at hr
  obtain ⟨ea, hloc⟩ := history_local_any o _ h h' g hr
  refine ⟨ea, fun m b j hmb hj hne => ?_⟩
  obtain ⟨_, hop', ht⟩ := hloc m b j hmb hj hne
  obtain ⟨op, hop, rfl⟩ := List.mem_map.1 hop'
  exact ⟨op, hop, ht⟩

/-- the contrapositive, as a user reads it: a slot whose stamp after the history is one no update
    of the history touches at its level is exactly what it was before -/
theorem untouched_slot_unchanged (o : FOps) (ops : List (Nat × Val × Nat)) (h h' : Handle) (g : Good h)
    (hr : runSingles o h ops = .ok h') (m : Nat) (b : Arch) (j : Nat)
    (hmb : h.archs[m]? = some b) (hj : j < b.n)
    (hkeep : ∀ op ∈ ops, ∀ T, Touches h.archs op.1 op.2.2 m T → T ≠ (slotAt h' b j).t) :
    slotAt h' b j = slotAt h b j :=
  Classical.byContradiction fun hne =>
    have ⟨op, hop, ht⟩ := (history_local o ops h h' g hr).2 m b j hmb hj hne
    hkeep op hop _ ht rfl

def ChainWF (as : List Arch) : Prop :=
  ∀ (i : Nat) (a b : Arch), as[i]? = some a → as[i + 1]? = some b → 0 < a.step ∧ a.step ∣ b.step ∧ 0 < b.step

/-- the `s`-interval at `T` lies inside the `L`-interval `[T', T' + L)` that contains `T`, `L` being
    a multiple of `s`: `s` divides the room `T' + L - T` left in it -/
theorem coarser_interval {s L T T' t : Int} (hsL : s ∣ L) (hd : s ∣ T) (hd' : L ∣ T') (hT : T < T' + L)
    (hlt : t < T + s) : t < T' + L := by
  have hroom : s ∣ T' + L - T := Int.dvd_sub (Int.dvd_add (Int.dvd_trans hsL hd') hsL) hd
  have := Int.le_of_dvd (by omega) hroom
  omega

/-- **the chain's stamp at level `m` is the interval of that level containing the time** -/
theorem chainTime_contains (as : List Arch) (wf : ChainWF as) (t : Nat) :
    ∀ (fuel k T m : Nat) (ak : Arch), as[k]? = some ak → 0 < ak.step →
      ak.step ∣ (T : Int) → T ≤ t → (t : Int) < T + ak.step → T < 4294967296 →
      k ≤ m → m < as.length → m - k ≤ fuel →
      ∃ am, as[m]? = some am ∧ am.step ∣ (chainTime as k T fuel m : Int) ∧
        chainTime as k T fuel m ≤ t ∧ (t : Int) < chainTime as k T fuel m + am.step := by
  intro fuel k T m ak hak hs hd hle hlt hT hkm hml hf
  induction fuel generalizing k T ak with
  | zero =>
    obtain rfl : m = k := Nat.le_antisymm (Nat.le_of_sub_eq_zero (Nat.eq_zero_of_le_zero hf)) hkm
    exact ⟨ak, hak, hd, hle, hlt⟩
  | succ fuel ih =>
    by_cases hmk : m = k
    · subst hmk
      rw [chainTime_self]; exact ⟨ak, hak, hd, hle, hlt⟩
    · have hk : k < m := Nat.lt_of_le_of_ne hkm (Ne.symm hmk)
      obtain ⟨l, hl⟩ : ∃ l, as[k + 1]? = some l := ⟨_, List.getElem?_eq_getElem (Nat.lt_of_le_of_lt hk hml)⟩
      obtain ⟨_, hdiv, hls⟩ := wf k ak l hak hl
      obtain ⟨hd', hle', hlt'⟩ := ifw_contains hls hT
      rw [chainTime_succ hk hl]
      exact ih (k + 1) (l.intervalForWrite T) l hl hls hd' (Nat.le_trans hle' hle)
        (coarser_interval hdiv hd hd' hlt' hlt) (intervalForWrite_lt l T) hk (Nat.pred_le_pred hf)  -- `m - (k + 1)` is `pred (m - k)`

/-- **a touched stamp is the interval of its level that contains the update's time** -/
theorem touchesAt_contains (as : List Arch) (wf : ChainWF as) (hpos : ∀ a ∈ as, 0 < a.step)
    (k t m T : Nat) (ht : t < 4294967296) (hm : m < as.length) (hT : TouchesAt as k t m T) :
    ∃ am, as[m]? = some am ∧ am.step ∣ (T : Int) ∧ T ≤ t ∧ (t : Int) < T + am.step := by
  obtain ⟨a, ha, hkm, h1, h2⟩ := hT
  have hs : 0 < a.step := hpos a (List.mem_of_getElem? ha)
  obtain ⟨hdv, hle, hlt⟩ := ifw_contains hs ht
  -- one unit of fuel more than `TouchesAt` gives its chain: `chainTime_succ` takes it off below
  have hc := chainTime_contains as wf t (as.length + 1) k (a.intervalForWrite t) m a ha hs hdv
    hle hlt (intervalForWrite_lt a t) hkm hm (Nat.le_trans (Nat.sub_le m k) (Nat.le_succ_of_le (Nat.le_of_lt hm)))
  by_cases hmk : m = k
  · subst hmk
    rwa [chainTime_self, ← h1 rfl] at hc
  · have hk : k < m := Nat.lt_of_le_of_ne hkm (Ne.symm hmk)
    obtain ⟨l, hl, hTe⟩ := h2 hk
    rwa [chainTime_succ hk hl, ← hTe] at hc

theorem TouchesAt.inside {as : List Arch} (wf : ChainWF as) (hpos : ∀ a ∈ as, 0 < a.step) {k t m T : Nat} {b : Arch}
    (hmb : as[m]? = some b) (ht : t < 4294967296) (hT : TouchesAt as k t m T) :
    T ≤ t ∧ (t : Int) < T + b.step ∧ b.step ∣ (T : Int) := by
  obtain ⟨am, ham, hd, hle, hlt⟩ := touchesAt_contains as wf hpos k t m T ht (List.getElem?_eq_some_iff.1 hmb).1 hT
  cases hmb.symm.trans ham
  exact ⟨hle, hlt, hd⟩

theorem touches_contains (as : List Arch) (wf : ChainWF as) (hpos : ∀ a ∈ as, 0 < a.step)
    (t now m T : Nat) (ht : t < 4294967296) (hm : m < as.length) (hT : Touches as t now m T) :
    ∃ am, as[m]? = some am ∧ am.step ∣ (T : Int) ∧ T ≤ t ∧ (t : Int) < T + am.step :=
  touchesAt_contains as wf hpos _ t m T ht hm hT

/-- **a slot changes only through updates whose time lies inside the interval it is then
    stamped with**: over any history of accepted single updates of a file with a validated
    header whose steps are positive and each divide the next -/
theorem history_changes_only_inside (o : FOps) (ops : List (Nat × Val × Nat)) (h h' : Handle) (g : Good h)
    (wf : ChainWF h.archs) (hpos : ∀ a ∈ h.archs, 0 < a.step) (htimes : ∀ op ∈ ops, op.1 < 4294967296)
    (hr : runSingles o h ops = .ok h') (m : Nat) (b : Arch) (j : Nat)
    (hmb : h.archs[m]? = some b) (hj : j < b.n) (hne : slotAt h' b j ≠ slotAt h b j) :
    ∃ op ∈ ops, (slotAt h' b j).t ≤ op.1 ∧ (op.1 : Int) < (slotAt h' b j).t + b.step ∧
      b.step ∣ ((slotAt h' b j).t : Int) := by
  obtain ⟨op, hop, ht⟩ := (history_local o ops h h' g hr).2 m b j hmb hj hne
  exact ⟨op, hop, TouchesAt.inside wf hpos hmb (htimes op hop) ht⟩

theorem good_chainWF {h : Handle} (g : Good h) : ChainWF h.archs ∧ ∀ a ∈ h.archs, 0 < a.step := by
  have hpos : ∀ a ∈ h.archs, 0 < a.step := fun a ha => (wfFrom_archOK g.wf.2.2 a ha).1
  exact ⟨fun i a b ha hb => ⟨hpos a (List.mem_of_getElem? ha),
    Int.dvd_of_emod_eq_zero (C03S.wfFrom_pair g.wf.2.2 ha hb).2.1, hpos b (List.mem_of_getElem? hb)⟩, hpos⟩

/-- **the same of every file whispertool opened or created**: the validated header gives the
    layout hypotheses -/
theorem history_changes_only_inside_good (o : FOps) (ops : List (Nat × Val × Nat)) (h h' : Handle) (g : Good h)
    (htimes : ∀ op ∈ ops, op.1 < 4294967296)
    (hr : runSingles o h ops = .ok h') (m : Nat) (b : Arch) (j : Nat)
    (hmb : h.archs[m]? = some b) (hj : j < b.n) (hne : slotAt h' b j ≠ slotAt h b j) :
    ∃ op ∈ ops, (slotAt h' b j).t ≤ op.1 ∧ (op.1 : Int) < (slotAt h' b j).t + b.step ∧
      b.step ∣ ((slotAt h' b j).t : Int) :=
  history_changes_only_inside o ops h h' g (good_chainWF g).1 (good_chainWF g).2 htimes hr m b j hmb hj hne

/-- **the same for histories that mix "best" routing and archives the caller names** -/
theorem history_any_changes_only_inside (o : FOps) (ops : List (Int × Nat × Val × Nat)) (h h' : Handle) (g : Good h)
    (htimes : ∀ op ∈ ops, op.2.1 < 4294967296)
    (hr : runSinglesAny o h ops = .ok h') (m : Nat) (b : Arch) (j : Nat)
    (hmb : h.archs[m]? = some b) (hj : j < b.n) (hne : slotAt h' b j ≠ slotAt h b j) :
    ∃ op ∈ ops, (slotAt h' b j).t ≤ op.2.1 ∧ (op.2.1 : Int) < (slotAt h' b j).t + b.step ∧
      b.step ∣ ((slotAt h' b j).t : Int) := by
  obtain ⟨op, hop, ht⟩ := (history_local_any o ops h h' g hr).2 m b j hmb hj hne
  exact ⟨op, hop, TouchesAt.inside (good_chainWF g).1 (good_chainWF g).2 hmb (htimes op hop) ht⟩

end Wsp.C02S
