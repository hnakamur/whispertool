/-
  C07  Layout validation: exactly the well-formed archive lists are accepted.

  `WellFormedArchs` is stated over ideal integers (no wrap-around); ⟦validate⟧ is the
  model of the Go code with uint32/int32 arithmetic as written.  All four entry points
  funnel through it.  xFilesFactor: "a number within [0,1]" is `XffInUnit` on the
  float32 bit pattern (non-negative floats are ordered like their bit patterns; -0 is
  the one admissible pattern with the sign bit); that the float comparison of the
  running code decides it is the law `XffLaw` (validated for the IEEE instance by the
  correspondence check: all boundary patterns in the quick tier, every float32 in the
  thorough tier).
-/
import Wsp.Proofs.ValidateLemmas
import Wsp.Proofs.OpenLemmas
import Wsp.Model.Text
namespace Wsp.C07
open Wsp.C14

/-- `0 ≤ x ≤ 1` as a number, on float32 bits: +0 … 1.0, or −0. NaN, ±Inf, negatives, >1 excluded. -/
def XffInUnit (x : UInt32) : Prop := x.toNat ≤ 0x3f800000 ∨ x.toNat = 0x80000000

def XffLaw (o : FOps) : Prop := ∀ x, o.xffValid x = true ↔ XffInUnit x

/-- ⟦ArchiveInfoList.validate⟧ accepts exactly the well-formed lists (all four rules, each
    at its boundary, and 32-bit representability). -/
theorem validate_iff (as : List Arch) (hr : ∀ a ∈ as, ArchWF a) :
    validateArchs as = true ↔ WellFormedArchs as := validateArchs_iff as hr

theorem method_iff (m : Nat) : validAgg m = true ↔ 1 ≤ m ∧ m ≤ 6 := by
  simp [validAgg]

theorem newHeader_accepts (o : FOps) (agg : Nat) (xff : UInt32) (lay : List (Int × Nat)) (h : Header)
    (hok : newHeader o agg xff lay = .ok h) :
    validAgg agg = true ∧ o.xffValid xff = true ∧ validateArchs h.archives = true ∧
    h.archives = fillOffsets (lay.map fun (s, n) => ⟨0, s, n⟩) ∧ h.agg = agg ∧ h.xff = xff := by
  obtain ⟨h1, h2, h3, h4, h5, h6, -⟩ := newHeader_ok hok
  exact ⟨h1, h2, h3, h4, h5, h6⟩

theorem newHeader_rejects (o : FOps) (agg : Nat) (xff : UInt32) (lay : List (Int × Nat))
    (hbad : validAgg agg = false ∨ o.xffValid xff = false ∨
      validateArchs (fillOffsets (lay.map fun (s, n) => ⟨0, s, n⟩)) = false) :
    newHeader o agg xff lay = .error (.err .invalid) := by
  unfold newHeader
  rcases hbad with h | h | h
  · simp [h]
  · by_cases ha : validAgg agg = true <;> simp [ha, h]
  · by_cases ha : validAgg agg = true <;> by_cases hx : o.xffValid xff = true <;> simp [ha, hx, h]

theorem decHeader_accepts (o : FOps) (src : Bytes) (h : Header) (rest : Bytes)
    (hok : decHeader o src = .ok (h, rest)) :
    validAgg h.agg = true ∧ o.xffValid h.xff = true ∧ validateArchs h.archives = true :=
  have wf := (decHeader_inv o src h rest hok).2
  ⟨wf.agg, wf.xff, wf.valid⟩

theorem parse_accepts (s : Str) (as : List Arch) (hok : parseArchiveInfoList s = some as) :
    validateArchs as = true := by
  unfold parseArchiveInfoList at hok
  dsimp only at hok
  split at hok
  · cases hok
  · split at hok
    · cases hok
    · split at hok
      · cases hok; assumption
      · cases hok

/-- `Open`: whatever opens has passed the same three tests (and is long enough, C15) -/
theorem open_accepts (o : FOps) (bytes : Bytes) (ps : Nat) (h : Handle)
    (hok : openBytes o bytes ps = .ok h) :
    validAgg h.hdr.agg = true ∧ o.xffValid h.hdr.xff = true ∧ validateArchs h.hdr.archives = true :=
  have wf := (readHeader_ok_iff.1 (openBytes_ok.1 hok).1).1
  ⟨wf.agg, wf.xff, wf.valid⟩

/-- All entry points agree, in one direction: a list that the parser, the header decoder,
    `Open` or `NewHeader` lets through is well-formed.  (That `validate` accepts every
    well-formed list is `validate_iff`.) -/
theorem entry_points_agree (o : FOps) (as : List Arch) (hr : ∀ a ∈ as, ArchWF a) :
    ((∃ s, parseArchiveInfoList s = some as) → WellFormedArchs as) ∧
    ((∃ src h rest, decHeader o src = .ok (h, rest) ∧ h.archives = as) → WellFormedArchs as) ∧
    ((∃ b ps h, openBytes o b ps = .ok h ∧ h.hdr.archives = as) → WellFormedArchs as) ∧
    ((∃ agg xff lay h, newHeader o agg xff lay = .ok h ∧ h.archives = as) → WellFormedArchs as) := by
  refine ⟨?_, ?_, ?_, ?_⟩
  · rintro ⟨s, hs⟩; exact (validate_iff as hr).1 (parse_accepts s as hs)
  · rintro ⟨src, h, rest, hd, rfl⟩; exact (validate_iff _ hr).1 (decHeader_accepts o src h rest hd).2.2
  · rintro ⟨b, ps, h, ho, rfl⟩; exact (validate_iff _ hr).1 (open_accepts o b ps h ho).2.2
  · rintro ⟨agg, xff, lay, h, hn, rfl⟩; exact (validate_iff _ hr).1 (newHeader_accepts o agg xff lay h hn).2.2.1

/-! ### non-vacuity and the boundaries named by the property -/

private def a (off : Nat) (s : Int) (n : Nat) : Arch := ⟨off, s, n⟩

example : validateArchs [a 40 1 8, a 136 4 6] = true := by decide
-- equal steps / non-dividing steps / equal retentions / one point too few / zero values
example : validateArchs [a 40 4 8, a 136 4 9] = false := by decide
example : validateArchs [a 40 4 8, a 136 6 9] = false := by decide
example : validateArchs [a 40 1 8, a 136 4 2] = false := by decide
example : validateArchs [a 40 1 3, a 76 4 6] = false := by decide
example : validateArchs [a 28 0 3] = false := by decide
example : validateArchs [a 28 1 0] = false := by decide
example : validateArchs [] = false := by decide
-- 32-bit overflow: 1s:20y,1m:30y (offsets wrap) and a retention of 2^31 seconds
example : validateArchs [a 40 1 630720000, a 3273672744 60 15768000] = false := by decide
example : validateArchs [a 28 2 1073741824] = false := by decide

end Wsp.C07
