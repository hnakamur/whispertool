/-
  C02, the work-list of a batch as a refinement.  ⟦propagate⟧ threads a reversed
  accumulator with a "same as the last one" test through its loop; ⟦propagateChain⟧ feeds
  each level's result into the next.  Stated without the accumulator:

  * one level (`levelSpec`) consolidates the given coarser intervals one after the other,
    each on the state the previous one left, and reports the intervals it stored, in order;
  * the next level's list (`nextTimes`) is the intervals of the next archive containing the
    stored ones, adjacent repetitions dropped — nothing when there is no next archive;
  * the chain (`chainBatchSpec`) repeats this level by level while there is an archive and
    something was stored.

  `propagateChain_batch` : ⟦propagateChain⟧ equals that, for every batch.
-/
import Wsp.Props.C02System
namespace Wsp.C02S
open Wsp.Handle Wsp.C14 Wsp.Total Wsp.C01 Wsp.Inv

/-- one level: each interval consolidated in turn, on the state its predecessor left;
    returns the intervals that were stored, in order -/
def levelSpec (o : FOps) (a aHigh : Arch) : Handle → List Nat → R (Handle × List Nat)
  | h, [] => .ok (h, [])
  | h, t :: ts =>
    match propagateOne o h a aHigh t with
    | .error e => .error e
    | .ok (h', stored) =>
      match levelSpec o a aHigh h' ts with
      | .error e => .error e
      | .ok (h'', st) => .ok (h'', if stored then t :: st else st)

theorem levelSpec_cons_ok {o : FOps} {a aHigh : Arch} {h h' : Handle} {t : Nat} {ts st : List Nat}
    (hl : levelSpec o a aHigh h (t :: ts) = .ok (h', st)) :
    ∃ h1 stored st', propagateOne o h a aHigh t = .ok (h1, stored) ∧
      levelSpec o a aHigh h1 ts = .ok (h', st') ∧ st = if stored then t :: st' else st' := by
  simp only [levelSpec] at hl
  split at hl
  · cases hl
  · rename_i h1 stored hone
    split at hl
    · cases hl
    · rename_i st' hr
      cases hl
      exact ⟨h1, stored, st', hone, hr, rfl⟩

/-- the next level's list, from the intervals stored at this one -/
def nextTimes (aLow : Option Arch) (stored : List Nat) : List Nat :=
  match aLow with
  | none => []
  | some l => dedupAdj (stored.map l.intervalForWrite)

/-- the accumulator after a run of stored intervals -/
def accAfter (aLow : Option Arch) (acc : List Nat) (stored : List Nat) : List Nat :=
  match aLow with
  | none => acc
  | some l => (stored.map l.intervalForWrite).foldl pushNew acc

theorem accAfter_cons (aLow : Option Arch) (acc : List Nat) (t : Nat) (st : List Nat) :
    accAfter aLow acc (t :: st) = accAfter aLow (nextAcc aLow acc t true) st := by
  cases aLow <;> rfl

theorem propagateLoop_level (o : FOps) (a aHigh : Arch) (aLow : Option Arch) :
    ∀ (ts : List Nat) (h : Handle) (acc : List Nat),
      propagateLoop o h a aHigh aLow acc ts =
        match levelSpec o a aHigh h ts with
        | .error e => .error e
        | .ok (h', st) => .ok (h', (accAfter aLow acc st).reverse) := by
  intro ts h acc
  induction ts generalizing h acc with
  | nil => cases aLow <;> rfl
  | cons t ts ih =>
    rw [propagateLoop_cons]
    simp only [levelSpec]
    cases propagateOne o h a aHigh t with
    | error e => rfl
    | ok r =>
      obtain ⟨h', stored⟩ := r
      dsimp only
      rw [ih]
      cases levelSpec o a aHigh h' ts with
      | error e => rfl
      | ok r2 =>
        cases stored with
        | false => rfl
        | true => dsimp only; rw [if_pos rfl, accAfter_cons]

theorem accAfter_nil_rev (aLow : Option Arch) (st : List Nat) :
    (accAfter aLow [] st).reverse = nextTimes aLow st := by
  cases aLow with
  | none => rfl
  | some l => exact foldl_pushNew_nil _

/-- ⟦propagate⟧ at level `k`, without the accumulator -/
def propagateSpec (o : FOps) (h : Handle) (k : Nat) (ts : List Nat) : R (Handle × List Nat) :=
  if ts.length = 0 then .ok (h, []) else
  match h.archs[k]?, h.archs[k - 1]? with
  | some a, some aHigh =>
    match h.baseInterval a with
    | .error e => .error e
    | .ok _ =>
      match levelSpec o a aHigh h ts with
      | .error e => .error e
      | .ok (h', st) => .ok (h', nextTimes h.archs[k + 1]? st)
  | _, _ => .error (.panic "index out of range")

theorem propagate_eq_spec (o : FOps) (h : Handle) (k : Nat) (ts : List Nat) :
    propagate o h k ts = propagateSpec o h k ts := by
  unfold propagate propagateSpec
  simp only [propagateLoop_level, accAfter_nil_rev]
  rfl

theorem propagateSpec_ok {o : FOps} {h h' : Handle} {k : Nat} {ts ts' : List Nat} (hts : ts ≠ [])
    (hp : propagateSpec o h k ts = .ok (h', ts')) :
    ∃ a aHigh st, h.archs[k]? = some a ∧ h.archs[k - 1]? = some aHigh ∧
      levelSpec o a aHigh h ts = .ok (h', st) ∧ ts' = nextTimes h.archs[k + 1]? st := by
  unfold propagateSpec at hp
  rw [if_neg (by simpa using hts)] at hp
  split at hp
  · rename_i a aHigh ha hah
    split at hp
    · cases hp
    · split at hp
      · cases hp
      · rename_i st hl
        cases hp
        exact ⟨a, aHigh, st, ha, hah, hl, rfl⟩
  · cases hp

/-- the chain of a batch, level by level -/
def chainBatchSpec (o : FOps) : Nat → Handle → Nat → List Nat → R Handle
  | 0, h, _, _ => .ok h
  | fuel+1, h, k, ts =>
    if k < h.archs.length ∧ ts.length > 0 then
      match propagateSpec o h k ts with
      | .error e => .error e
      | .ok (h', ts') => chainBatchSpec o fuel h' (k + 1) ts'
    else .ok h

theorem chainLoop_batch (o : FOps) (fuel : Nat) :
    ∀ (h : Handle) (k : Nat) (ts : List Nat), propagateChainLoop o fuel h k ts = chainBatchSpec o fuel h k ts := by
  intro h k ts
  induction fuel generalizing h k ts with
  | zero => rfl
  | succ fuel ih =>
    simp only [propagateChainLoop, chainBatchSpec, propagate_eq_spec, ih]
    rfl

/-- **⟦propagateChain⟧ for any batch, as the level-by-level chain**: the first level's list
    is the intervals of the next archive containing the written points (adjacent repetitions
    dropped), every further level's list is built from what the previous level stored -/
theorem propagateChain_batch (o : FOps) (h : Handle) (k : Nat) (aligned : List Point) :
    propagateChain o h k aligned =
      match h.archs[k + 1]? with
      | none => .ok h
      | some l => chainBatchSpec o h.archs.length h (k + 1)
          (dedupAdj ((aligned.map (·.t)).map l.intervalForWrite)) := by
  unfold propagateChain
  simp only [timesToPropagate_dedup, chainLoop_batch]
  rfl

theorem mem_nextTimes (l : Arch) (st : List Nat) (T : Nat) :
    T ∈ nextTimes (some l) st ↔ ∃ t ∈ st, T = l.intervalForWrite t := by
  simp only [nextTimes, mem_dedupAdj, List.mem_map, eq_comm]

theorem levelSpec_stored_sublist {o : FOps} {a aHigh : Arch} {ts : List Nat} {h h' : Handle} {st : List Nat}
    (hl : levelSpec o a aHigh h ts = .ok (h', st)) : st.Sublist ts := by
  induction ts generalizing h st with
  | nil => cases hl; exact List.Sublist.slnil
  | cons t0 ts ih =>
    obtain ⟨h1, stored, st', _, hr, rfl⟩ := levelSpec_cons_ok hl
    cases stored
    · exact (ih hr).cons _
    · exact (ih hr).cons_cons _

/-- **recomputation continues only under stored slots**: every interval handed to the next
    level is the interval (of the next archive) of one given to this level.  That it is one this
    level stored is `propagateSpec_ok` with `mem_nextTimes`; the statement keeps only `t ∈ ts`. -/
theorem next_level_only_stored (o : FOps) (h h' : Handle) (k : Nat) (ts ts' : List Nat)
    (hp : propagateSpec o h k ts = .ok (h', ts')) :
    ∀ T ∈ ts', ∃ l t, h.archs[k + 1]? = some l ∧ t ∈ ts ∧ T = l.intervalForWrite t := by
  intro T hT
  cases ts with
  | nil => cases hp; cases hT
  | cons t0 ts0 =>
    obtain ⟨a, aHigh, st, _, _, hl, rfl⟩ := propagateSpec_ok (List.cons_ne_nil _ _) hp
    cases hlow : h.archs[k + 1]? with
    | none => simp [hlow, nextTimes] at hT
    | some l =>
      rw [hlow, mem_nextTimes] at hT
      obtain ⟨t, ht, e⟩ := hT
      exact ⟨l, t, rfl, (levelSpec_stored_sublist hl).subset ht, e⟩

theorem chainBatchSpec_nil (o : FOps) (fuel : Nat) (h : Handle) (k : Nat) : chainBatchSpec o fuel h k [] = .ok h := by
  rw [← chainLoop_batch, chainLoop_nil]

/-- **a level that stores nothing ends the chain**: no coarser archive is touched -/
theorem chain_stops_when_nothing_stored (o : FOps) (fuel : Nat) (h h' : Handle) (k : Nat) (ts : List Nat)
    (a aHigh : Arch) (ha : h.archs[k]? = some a) (hah : h.archs[k - 1]? = some aHigh) (b : Nat)
    (hb : h.baseInterval a = .ok b) (hts : ts ≠ [])
    (hl : levelSpec o a aHigh h ts = .ok (h', [])) :
    chainBatchSpec o (fuel + 1) h k ts = .ok h' := by
  have hk : k < h.archs.length := (List.getElem?_eq_some_iff.1 ha).1
  have hpos : ts.length > 0 := List.length_pos_iff.2 hts
  have hnext : nextTimes h.archs[k + 1]? [] = [] := by unfold nextTimes; cases h.archs[k + 1]? <;> rfl
  simp only [chainBatchSpec, if_pos (And.intro hk hpos), propagateSpec, if_neg (Nat.ne_of_gt hpos), ha, hah, hb, hl,
    hnext, chainBatchSpec_nil]

end Wsp.C02S
