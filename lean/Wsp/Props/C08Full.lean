/-
  C08, from the core to the whole command.  `diff` right after a successful `copy` (NaN values
  included, all archives, same window and clock) reports nothing: the destination handle
  published by the copy's final Sync is reopened by `diff` (`open_reopenable`), its archives
  read exactly the ring (`fetchList_win`), the ring agrees with the source (`copyArchives_run`),
  and ⟦TimeSeriesList.Diff⟧ of two agreeing lists is empty on both sides
  (`copy_then_dest_clean`) — at the level of `copyCore` (`copy_then_diff_clean`,
  `sumcopy_then_sumdiff_clean`) and of the whole command, whether the destination existed or
  was created by the copy (`copyOne_then_diffOne_clean`).  With one archive selected
  (`-archive k`) the core reads and writes that archive only, and on success the published
  destination agrees with the source on that archive's window (`copyCore_agrees_one`).
-/
import Wsp.Props.C08All
import Wsp.Props.Reopen
namespace Wsp.C08
open Wsp.Handle Wsp.C14 Wsp.Total Wsp.C01 Wsp.Cmd Wsp.Inv Wsp.Reopen

variable {o : FOps} {excl : Bool} {t t' : Tree} {dst : String} {c : CopyOpts} {w : Window} {h hd : Handle} {a : Arch}
  {f cnt i : Nat} {vs : List Val} {ls ld : List (Option Series)}

theorem diffLoop_lengths (o : FOps) (excl : Bool) (f1 f2 : Nat) (step : Int) :
    ∀ (vs ds : List Val) (i : Nat),
      (diffLoop o excl f1 f2 step i vs ds).1.length = (diffLoop o excl f1 f2 step i vs ds).2.length
  | [], ds, _ => by cases ds <;> rfl
  | _ :: _, [], _ => rfl
  | _ :: vs, _ :: ds, i => by
    simp only [diffLoop]
    split
    · simp only [List.length_cons, diffLoop_lengths o excl f1 f2 step vs ds (i + 1)]
    · exact diffLoop_lengths o excl f1 f2 step vs ds (i + 1)

theorem zip_all_getD {α β} {l1 : List α} {l2 : List β} {p : α × β → Bool} (d1 : α) (d2 : β)
    (h : ∀ k, k < l1.length → p (l1.getD k d1, l2.getD k d2) = true) : (l1.zip l2).all p = true :=
  List.all_eq_true.2 fun _ hm => by
    obtain ⟨k, hk⟩ := List.mem_iff_getElem?.1 hm
    obtain ⟨h1, h2⟩ := List.getElem?_zip_eq_some.1 hk
    simpa only [List.getD_eq_getElem?_getD, h1, h2, Option.getD_some] using h k (List.getElem?_eq_some_iff.1 h1).1

theorem diffPoints_lengths (o : FOps) (excl : Bool) (s1 s2 : Option Series)
    (h : (sValues s1).length = (sValues s2).length) :
    (diffPoints o excl s1 s2).1.length = (diffPoints o excl s1 s2).2.length := by
  unfold diffPoints
  rw [if_neg (by omega)]
  exact diffLoop_lengths ..

/-- two series that agree everywhere (NaN values included) have no differing points -/
theorem diffPoints_agree_nil (hs : 0 < a.step) (hvs : vs.length = cnt) (hhi : f + a.step.toNat * cnt < 2147483648)
    (hag : Agrees o false h a f cnt vs) :
    diffPoints o false (some ⟨f, f + a.step.toNat * cnt, a.step, vs⟩) (some (readSeries h a f cnt)) = ([], []) := by
  have h1 := (diffPoints_nil_iff hs hvs hhi).2 hag
  refine Prod.ext h1 (List.eq_nil_of_length_eq_zero ?_)
  rw [← diffPoints_lengths o false _ _ (by simp [sValues, readSeries, hvs]), h1]
  rfl

theorem diffLists_allEmpty (hlen : ls.length = ld.length)
    (hpair : ∀ k, k < ls.length → diffPoints o excl (ls.getD k none) (ld.getD k none) = ([], [])) :
    (allEmpty (diffLists o excl ls ld).1 && allEmpty (diffLists o excl ls ld).2) = true := by
  unfold diffLists
  rw [if_neg (by omega)]
  simp only [allEmpty, List.all_map, Bool.and_eq_true]
  exact ⟨zip_all_getD none none fun k hk => by simp only [Function.comp, hpair k hk, List.isEmpty_nil],
    zip_all_getD none none fun k hk => by simp only [Function.comp, hpair k hk, List.isEmpty_nil]⟩

theorem rangesEqual_of_getD (hlen : ls.length = ld.length)
    (hpair : ∀ k, k < ls.length → sFrom (ls.getD k none) = sFrom (ld.getD k none) ∧
      sUntil (ls.getD k none) = sUntil (ld.getD k none) ∧ sStep (ls.getD k none) = sStep (ld.getD k none)) :
    rangesEqual ls ld = true := by
  unfold rangesEqual
  rw [hlen, beq_self_eq_true, Bool.true_and]
  exact zip_all_getD none none fun k hk => by
    obtain ⟨e1, e2, e3⟩ := hpair k hk
    simp only [e1, e2, e3, beq_self_eq_true, Bool.and_self]

/-- one run of ⟦copyDifferentPoints⟧ keeps the invariant and the frame of the file -/
theorem copyArchives_inv (o : FOps) (ls : List (Option Series)) (excl : Bool) (w : Window) (L : Nat)
    (A : Nat → Arch) (F C : Nat → Nat) (V : Nat → List Val) (H : Nat) (batches : List (List Point)) :
    ∀ (h h'' : Handle) (i : Nat) (written : List (List Point)), Good h → AllState h → Coarse h L →
      H = 16 + 12 * h.hdr.archives.length →
      (∀ k, i ≤ k → k < i + batches.length → ArchSpec h ls w L k (A k) (F k) (C k) (V k)) →
      (i = 0 → ∀ ps, batches.head? = some ps →
        ps = (diffPoints o excl (ls.getD 0 none) (some (readSeries h (A 0) (F 0) (C 0)))).1) →
      copyArchives o ls excl w h i batches = .ok (h'', written) →
      AllState h'' ∧ Good h'' ∧ Frame H h h'' := by
  intro h h'' i written g al c hH hspec hfirst hp
  obtain ⟨al', g', fr, _⟩ := copyArchives_run L A F C V g al c hspec hfirst hp
  exact ⟨al', g', hH ▸ fr⟩

theorem readFile_published {id : Int} {u now : Nat} {l : List (Option Series)} (r : Reopenable o h)
    (hget : t.get dst = some h.view) (hfl : fetchList h id f u now = .ok l) :
    readFile o t dst id f u now = .ok (h.hdr, l) :=
  readFile_ok_iff.2 ⟨_, h, hget, open_reopenable o h r _, rfl, hfl⟩

/-- what a reader of the destination finds on the tree a successful copy (NaN values
    included, all archives) left: the destination's header, series of the source's shape,
    and no differing point on either side — and no other path of the tree was touched -/
theorem copy_then_dest_clean (o : FOps) (hl : FLaws o) (t : Tree) (dst : String) (hd : Handle) (srcArchs : List Arch)
    (ls : List (Option Series)) (w : Window) (L : Nat)
    (A : Nat → Arch) (F C : Nat → Nat) (V : Nat → List Val)
    (g : Good hd) (al : AllState hd) (c : Coarse hd L) (r : Reopenable o hd)
    (hall : w.archiveID = -1)
    (hdst : t.get dst = some hd.view)
    (hlen : ls.length = hd.archs.length)
    (hspec : ∀ k, k < hd.archs.length → ArchSpec hd ls w L k (A k) (F k) (C k) (V k))
    (hok : (copyCore o t dst hd srcArchs ls w false).2.1 = .ok) :
    ∃ ld', readFile o (copyCore o t dst hd srcArchs ls w false).1 dst w.archiveID w.from_ w.until' w.now =
        .ok (hd.hdr, ld') ∧
      layoutsEqual srcArchs hd.hdr.archives = true ∧ rangesEqual ls ld' = true ∧
      (allEmpty (diffLists o false ls ld').1 && allEmpty (diffLists o false ls ld').2) = true ∧
      ∀ p, p ≠ dst → (copyCore o t dst hd srcArchs ls w false).1.get p = t.get p := by
  obtain ⟨ld, hfl, hlay, hrng, hcase⟩ := copyCore_cases o t dst hd srcArchs ls w false hok
  rcases hcase with ⟨hempty, htree⟩ | ⟨hd', written, hca, htree⟩ <;> rw [htree]
  · exact ⟨ld, readFile_published r hdst hfl, hlay, hrng, hempty, fun _ _ => rfl⟩
  · -- the copy read the windows of the ring, wrote, and the diff reads the windows again
    rw [C18.fetchList_win al hall (fun k hk => (hspec k hk).toWin)] at hfl
    cases hfl
    -- `hca` first: it fixes the batches, in which `first_batch` finds the series read
    obtain ⟨al', _, fr, hag⟩ := (copyArchives_run L A F C V g al c (hp := hca))
      (by intro k' _ h2; rw [List.length_map, List.length_range, Nat.zero_add] at h2; exact hspec k' h2)
      (fun _ => first_batch hlen)
    rw [List.length_map, List.length_range, Nat.zero_add] at hag
    have hfl' := C18.fetchList_win al' hall
      (fun k hk => ((hspec k (fr.archs ▸ hk)).of_hdr fr.1).toWin)
    rw [fr.archs] at hfl'
    have hrd := readFile_published (r.of_frame fr) (get_set_same (t := t) (p := dst)) hfl'
    rw [fr.1] at hrd
    refine ⟨_, hrd, hlay, ?_, ?_, fun p hp => get_set_ne hp⟩
    · apply rangesEqual_of_getD (by simp [hlen])
      intro k hk
      rw [(hspec k (hlen ▸ hk)).src, getD_range_map (hlen ▸ hk)]
      exact ⟨rfl, rfl, rfl⟩
    · apply diffLists_allEmpty (by simp [hlen])
      intro k hk
      have sp := hspec k (hlen ▸ hk)
      rw [sp.src, getD_range_map (hlen ▸ hk)]
      exact diffPoints_agree_nil sp.zone.ok.1 sp.len sp.zone.hi (hag hl k (Nat.zero_le k) (hlen ▸ hk))

/-- **copy, then diff: nothing is reported.**  With NaN values copied too and all archives
    selected, a `diff` of the same two files over the same window at the same clock, run on
    the tree that `copyCore` (the copy once source and destination are read, here ending `ok`)
    left, ends `ok` with no records.  For the `copy` command itself see `copyOne_then_diffOne_clean` below and C08Plain. -/
theorem copy_then_diff_clean (o : FOps) (hl : FLaws o) (t : Tree) (src dst : String) (hd : Handle) (hs : Header)
    (ls : List (Option Series)) (w : Window) (L : Nat)
    (A : Nat → Arch) (F C : Nat → Nat) (V : Nat → List Val)
    (g : Good hd) (al : AllState hd) (c : Coarse hd L) (r : Reopenable o hd)
    (hall : w.archiveID = -1) (hne : src ≠ dst)
    (hdst : t.get dst = some hd.view)
    (hsrc : readFile o t src w.archiveID w.from_ w.until' w.now = .ok (hs, ls))
    (hlen : ls.length = hd.archs.length)
    (hspec : ∀ k, k < hd.archs.length → ArchSpec hd ls w L k (A k) (F k) (C k) (V k))
    (hok : (copyCore o t dst hd hs.archives ls w false).2.1 = .ok) :
    diffOne o (copyCore o t dst hd hs.archives ls w false).1 src dst w = (.ok, []) := by
  obtain ⟨ld', hrd, hlay, hrng, hdl, hother⟩ :=
    copy_then_dest_clean o hl t dst hd hs.archives ls w L A F C V g al c r hall hdst hlen hspec hok
  have hrs : readFile o _ src w.archiveID w.from_ w.until' w.now = _ := (readFile_blind hne _ t hother).trans hsrc
  rw [diffOne_with, hrs, hrd]
  exact diffWith_clean hlay (fun _ => hrng) hdl

/-- **sum-copy, then sum-diff: nothing is reported** (same statement with the sum of the
    item's files as the source; the destination is not one of them) -/
theorem sumcopy_then_sumdiff_clean (o : FOps) (hl : FLaws o) (t : Tree) (files : List String) (dst : String)
    (hd : Handle) (hs : Header) (ls : List (Option Series)) (w : Window) (L : Nat)
    (A : Nat → Arch) (F C : Nat → Nat) (V : Nat → List Val)
    (g : Good hd) (al : AllState hd) (c : Coarse hd L) (r : Reopenable o hd)
    (hall : w.archiveID = -1) (hne : dst ∉ files)
    (hdst : t.get dst = some hd.view)
    (hsrc : sumFiles o t files w = .ok (hs, ls))
    (hlen : ls.length = hd.archs.length)
    (hspec : ∀ k, k < hd.archs.length → ArchSpec hd ls w L k (A k) (F k) (C k) (V k))
    (hok : (copyCore o t dst hd hs.archives ls w false).2.1 = .ok) :
    sumDiff o (copyCore o t dst hd hs.archives ls w false).1 files dst w = (.ok, []) := by
  obtain ⟨ld', hrd, hlay, _, hdl, hother⟩ :=
    copy_then_dest_clean o hl t dst hd hs.archives ls w L A F C V g al c r hall hdst hlen hspec hok
  have hrs : sumFiles o _ files w = _ := (sumFiles_blind hne _ t hother).trans hsrc
  rw [sumDiff_with, hrs, hrd]
  exact diffWith_clean hlay (fun h => by cases h) hdl

/-- the destination handle of a copy can be reopened from the bytes under its path, and
    opening or creating it touched no other path -/
theorem openOrCreate_published (o : FOps) (t t' : Tree) (dst : String) (c : CopyOpts) (hl : LayInRange c.lay)
    (hd : Handle) (hoc : openOrCreate o t dst c = .ok (t', hd)) :
    Reopenable o hd ∧ t'.get dst = some hd.view ∧ ∀ p, p ≠ dst → t'.get p = t.get p := by
  rcases openOrCreate_ok hoc with ⟨b, hb, ho, rfl⟩ | ⟨_, rfl, disk, hc⟩
  · exact ⟨opened_reopenable o b _ hd ho, by rw [(openBytes_ok.1 ho).2.1]; exact hb, fun _ _ => rfl⟩
  · exact ⟨created_reopenable o c.agg c.xff c.lay hl disk hd hc, get_set_same, fun p hp => get_set_ne hp⟩

theorem openOrCreate_isGood (hl : LayInRange c.lay) (hoc : openOrCreate o t dst c = .ok (t', hd)) : Good hd := by
  rcases openOrCreate_ok hoc with ⟨b, _, ho, _⟩ | ⟨_, _, disk, hc⟩
  · exact open_good o b _ hd ho
  · exact create_good o c.agg c.xff c.lay hl disk hd hc

/-- **a copy (NaN values included, all archives), then the comparison, command to command**,
    for any source reader that does not look at the destination -/
theorem copyWith_then_clean (hl : FLaws o) {rd : Tree → R (Header × List (Option Series))} (chk : Bool)
    (L : Nat) (A : Nat → Arch) (F C : Nat → Nat) (V : Nat → List Val)
    (hlay : LayInRange c.lay) (hall : w.archiveID = -1)
    (hrd : Blind dst rd)
    (hinv : ∀ t1 hd hs ls, openOrCreate o t dst c = .ok (t1, hd) → rd t1 = .ok (hs, ls) →
      AllState hd ∧ Coarse hd L ∧ ls.length = hd.archs.length ∧
      ∀ k, k < hd.archs.length → ArchSpec hd ls w L k (A k) (F k) (C k) (V k))
    (hok : (copyWith o rd false t dst c w).2.1 = .ok) :
    diffWith o chk (rd (copyWith o rd false t dst c w).1)
      (readFile o (copyWith o rd false t dst c w).1 dst w.archiveID w.from_ w.until' w.now) = (.ok, []) := by
  rcases copyWith_ends o rd false t dst c w with ⟨e, _, h⟩ | ⟨t1, hd, hoc, ⟨e, _, h⟩ | ⟨hs, ls, hrs, h⟩⟩ <;>
    rw [h] at hok ⊢
  · exact absurd hok Outcome.ofFault_ne_ok
  · exact absurd hok Outcome.ofFault_ne_ok
  · obtain ⟨al, co, hlen, hspec⟩ := hinv t1 hd hs ls hoc hrs
    obtain ⟨rp, hget, _⟩ := openOrCreate_published o t t1 dst c hlay hd hoc
    obtain ⟨ld', hrd', hlayout, hrng, hdl, hother⟩ := copy_then_dest_clean o hl t1 dst hd hs.archives ls w L A F C V
      (openOrCreate_isGood hlay hoc) al co rp hall hget hlen hspec hok
    rw [hrd _ t1 hother, hrs, hrd']
    exact diffWith_clean hlayout (fun _ => hrng) hdl

/-- **`copy`, then `diff`, command to command.**  Whatever the tree held: if `copy` with NaN
    values included and all archives selected reports success, then `diff` of the same pair
    over the same window at the same clock, on the tree the copy left, ends `ok` with no
    record.  The hypotheses on the destination handle are those of `copyCore_agrees` (the
    invariant of a file written by whispertool, and a window inside the clock zone). -/
theorem copyOne_then_diffOne_clean (o : FOps) (hl : FLaws o) (t : Tree) (src dst : String) (c : CopyOpts)
    (w : Window) (L : Nat) (A : Nat → Arch) (F C : Nat → Nat) (V : Nat → List Val)
    (hlay : LayInRange c.lay) (hnan : c.copyNaN = true) (hall : w.archiveID = -1) (hne : src ≠ dst)
    (hinv : ∀ t1 hd hs ls, openOrCreate o t dst c = .ok (t1, hd) →
      readFile o t1 src w.archiveID w.from_ w.until' w.now = .ok (hs, ls) →
      AllState hd ∧ Coarse hd L ∧ ls.length = hd.archs.length ∧
      ∀ k, k < hd.archs.length → ArchSpec hd ls w L k (A k) (F k) (C k) (V k))
    (hok : (copyOne o t src dst c w).2.1 = .ok) :
    diffOne o (copyOne o t src dst c w).1 src dst w = (.ok, []) := by
  rw [copyOne_with, hnan] at hok ⊢
  exact copyWith_then_clean (rd := fun t => readFile o t src w.archiveID w.from_ w.until' w.now) hl true L A F C V
    hlay hall (readFile_blind hne) hinv hok

theorem extractPoints_nil (now : Nat) (ret : Int) : extractPoints [] now ret = ([], []) := by
  simp [extractPoints]

theorem updateManyLoop_nil (o : FOps) (k : Int) (now : Nat) (as : List Arch) (h : Handle) (i : Nat) :
    updateManyLoop o k now h [] i as = .ok h := by
  induction as generalizing i with
  | nil => rfl
  | cons a as ih => simp only [updateManyLoop, extractPoints_nil, List.length_nil, if_true, ih, ite_self]

theorem updateMany_nil (o : FOps) (h : Handle) (k : Int) (now : Nat) : h.updateMany o [] k now = .ok h :=
  updateManyLoop_nil o k now h.archs h 0

/-- the "not selected" hypothesis of a run, passed to the rest of the run -/
theorem off_tail {ps : List Point} {rest : List (List Point)} {P : Nat → Prop}
    (h : ∀ m, m < (ps :: rest).length → P (i + m) → ls.getD (i + m) none = none ∧ (ps :: rest)[m]? = some []) :
    ∀ m, m < rest.length → P (i + 1 + m) → ls.getD (i + 1 + m) none = none ∧ rest[m]? = some [] := by
  intro m hm hP
  have e : i + (m + 1) = i + 1 + m := Nat.add_right_comm i m 1
  have := h (m + 1) (Nat.succ_lt_succ hm) (e ▸ hP)
  rwa [List.getElem?_cons_succ, e] at this

theorem copyPts_off (hoff : ls.getD i none = none) (ps : List Point) : copyPts o ls excl w h i ps = .ok ps := by
  unfold copyPts
  rw [hoff]

/-- archives that are not selected (no source series, an empty batch) are left alone -/
theorem copyArchives_noop (o : FOps) (ls : List (Option Series)) (excl : Bool) (w : Window) :
    ∀ (batches : List (List Point)) (i : Nat) (h : Handle),
      (∀ m, m < batches.length → ls.getD (i + m) none = none ∧ batches[m]? = some []) →
      ∃ written, copyArchives o ls excl w h i batches = .ok (h, written) := by
  intro batches i h hm
  induction batches generalizing i with
  | nil => exact ⟨[], rfl⟩
  | cons ps rest ih =>
    obtain ⟨h0a, h0b⟩ := hm 0 (by simp)
    simp only [Nat.add_zero, List.getElem?_cons_zero, Option.some.injEq] at h0a h0b
    subst h0b
    obtain ⟨wr, hwr⟩ := ih (i + 1) (fun m hm' => off_tail (P := fun _ => True) (fun m h _ => hm m h) m hm' trivial)
    exact ⟨_, copyArchives_cons_ok_iff.2 ⟨[], h, wr, copyPts_off h0a _, updateMany_nil o h _ _, hwr, rfl⟩⟩

/-- **one selected archive**: the run of ⟦copyDifferentPoints⟧ is the one write to archive
    `k`, after which its window agrees with the source (when `k = 0` its batch is the one prepared before the run,
    from the same reading; a coarser archive is read again by the run itself) -/
theorem copyArchives_one (o : FOps) (hl : FLaws o) (ls : List (Option Series)) (excl : Bool) (w : Window) (L : Nat)
    (k : Nat) (a : Arch) (f cnt : Nat) (vs : List Val) :
    ∀ (batches : List (List Point)) (i : Nat) (h h'' : Handle) (written : List (List Point)),
      i ≤ k → k < i + batches.length → Good h → ArchState h a → ArchSpec h ls w L k a f cnt vs →
      (∀ m, m < batches.length → i + m ≠ k → ls.getD (i + m) none = none ∧ batches[m]? = some []) →
      (k = 0 → batches[k - i]? = some (diffPoints o excl (ls.getD 0 none) (some (readSeries h a f cnt))).1) →
      copyArchives o ls excl w h i batches = .ok (h'', written) →
      Agrees o excl h'' a f cnt vs ∧ Good h'' ∧ h''.hdr = h.hdr ∧ ArchState h'' a := by
  intro batches i h h'' written hik hklt g st sp hoff hfirst hp
  induction batches generalizing i written with
  | nil => simp at hklt; omega
  | cons ps rest ih =>
    obtain ⟨pts, h', wr, hpts, hu, hr, _⟩ := copyArchives_cons_ok_iff.1 hp
    by_cases hi : i = k
    · -- the selected archive: its differences are written, the rest of the run is idle
      subst hi
      rw [spec_copyPts sp st (fun h0 => by
        simpa only [Nat.sub_self, List.getElem?_cons_zero, Option.some.injEq] using hfirst h0)] at hpts
      cases hpts
      obtain ⟨st', g', hh, hag⟩ := copy_step o hl excl h h' g i a sp.arch st f cnt w.now sp.zone vs sp.len hu
      obtain ⟨wr', hwr⟩ := copyArchives_noop o ls excl w rest (i + 1) h'
        (fun m hm' => off_tail (P := (· ≠ i)) hoff m hm' (Nat.ne_of_gt (Nat.lt_add_right m (Nat.lt_succ_self i))))
      rw [hwr] at hr
      cases hr
      exact ⟨hag, g', hh, st'⟩
    · -- an archive before the selected one: nothing is written
      have hlt : i < k := Nat.lt_of_le_of_ne hik hi
      obtain ⟨h0a, h0b⟩ := hoff 0 (by simp) (by omega)
      simp only [Nat.add_zero, List.getElem?_cons_zero, Option.some.injEq] at h0a h0b
      subst h0b
      rw [copyPts_off h0a] at hpts
      cases hpts
      rw [updateMany_nil] at hu
      cases hu
      exact ih (i + 1) wr hlt (by rw [Nat.add_assoc, Nat.add_comm 1]; exact hklt) (off_tail (P := (· ≠ k)) hoff)
        (fun h0 => absurd (h0 ▸ hlt) (Nat.not_lt_zero i)) hr

/-- **the core of copy / sum-copy with one archive selected**: on success the destination
    handle that is published (or the untouched one, when nothing was to be copied) agrees
    with the source on the window of the selected archive (`hls`: the source list is what a read with the same
    selection returns — a series at `k`, nothing elsewhere) -/
theorem copyCore_agrees_one (o : FOps) (hl : FLaws o) (t : Tree) (dst : String) (hd : Handle) (srcArchs : List Arch)
    (ls : List (Option Series)) (w : Window) (excl : Bool) (L : Nat)
    (k : Nat) (a : Arch) (f cnt : Nat) (vs : List Val)
    (g : Good hd) (st : ArchState hd a) (hsel : w.archiveID = (k : Int))
    (hls : ls = (List.range hd.archs.length).map fun (i : Nat) =>
      if (i : Int) = w.archiveID then some (⟨f, f + a.step.toNat * cnt, a.step, vs⟩ : Series) else none)
    (sp : ArchSpec hd ls w L k a f cnt vs)
    (hok : (copyCore o t dst hd srcArchs ls w excl).2.1 = .ok) :
    ∃ hd', ((copyCore o t dst hd srcArchs ls w excl).1 = t ∧ hd' = hd ∨
            (copyCore o t dst hd srcArchs ls w excl).1 = t.set dst hd'.view) ∧
      Agrees o excl hd' a f cnt vs := by
  have hk : k < hd.archs.length := (List.getElem?_eq_some_iff.1 sp.arch).1
  obtain ⟨ld, hfl, _, _, hcase⟩ := copyCore_cases o t dst hd srcArchs ls w excl hok
  -- what the copy read of the destination: the window of archive k, nothing elsewhere, like the source
  rw [fetchList_eq, hsel, select_one hk, C18.win_fetch sp.toWin st] at hfl
  have hld := Except.ok.inj hfl
  rw [hsel] at hls
  have hlen : ls.length = ld.length := by rw [hls, ← hld]; simp
  have hoff : ∀ m, m < hd.archs.length → m ≠ k → ls.getD m none = none ∧ ld.getD m none = none := by
    intro m hm hmk
    have hne : ¬ (m : Int) = (k : Int) := mt Int.natCast_inj.1 hmk
    rw [hls, ← hld, getD_range_map hm, getD_range_map hm, if_neg hne, if_neg hne]
    exact ⟨rfl, rfl⟩
  have hldk : ld.getD k none = some (readSeries hd a f cnt) := by rw [← hld, getD_range_map hk, if_pos rfl]
  rcases hcase with ⟨hempty, htree⟩ | ⟨hd', written, hca, htree⟩
  · refine ⟨hd, Or.inl ⟨htree, rfl⟩, ?_⟩
    have := allEmpty_getD (Bool.and_eq_true_iff.1 hempty).1 k
    rw [diffLists_getD hlen, sp.src, hldk] at this
    exact (diffPoints_nil_iff sp.zone.ok.1 sp.len sp.zone.hi).1 this
  · refine ⟨hd', Or.inr htree, (copyArchives_one o hl ls excl w L k a f cnt vs _ 0 hd hd' written (Nat.zero_le k)
      (by rw [List.length_map, List.length_range, Nat.zero_add]; exact hk) g st sp ?_ ?_ hca).1⟩
    · simp only [List.length_map, List.length_range, Nat.zero_add]
      intro m hm hmk
      obtain ⟨h1, h2⟩ := hoff m hm hmk
      exact ⟨h1, getElem?_range_map.2 ⟨hm, by rw [diffLists_getD hlen, h1, h2, diffPoints_none]⟩⟩
    · intro h0
      subst h0
      exact getElem?_range_map.2 ⟨hk, by rw [diffLists_getD hlen, hldk]⟩

end Wsp.C08
