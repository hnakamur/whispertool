/-
  C16, glob mode: ⟦CopyCommand.execute⟧ / ⟦DiffCommand.execute⟧ / sum-copy / sum-diff over a
  list of files or items never end in a panic either — the per-file commands never do
  (`C16T.*_total`, `copyOne_total`, `sumCopy_total`), and a copy leaves a tree on which the
  next file's command is again inside the clock zone (its destination is republished with
  the header it had).
-/
import Wsp.Props.C16Write
import Wsp.Props.C08Full
namespace Wsp.C16T
open Wsp.Total Wsp.Cmd Wsp.Reopen Wsp.C08

variable {o : FOps} {t : Tree} {dst : String} {c : CopyOpts} {w : Window} {h h'' : Handle}
  {ls : List (Option Series)} {excl : Bool}

theorem copyArchives_frame {H total i : Nat} {batches written : List (List Point)} (pl : Placed h H total)
    (hp : copyArchives o ls excl w h i batches = .ok (h'', written)) : Frame H h h'' :=
  (copyArchives_post (P := Frame H h) (fun _ _ => Post.trivial)
    (fun pts i f => .of_forall fun hm hu => f.trans (updateMany_frame o _ hm (pl.of_frame f) pts i w.now hu))
    batches h i (Frame.refl H h)).of_ok hp

/-- the tree ⟦copyCore⟧ leaves: untouched, or the destination republished with its header -/
theorem copyCore_tree (o : FOps) (t : Tree) (dst : String) (hd : Handle) (sa : List Arch) (ls : List (Option Series))
    (w : Window) (excl : Bool) (g : Good hd) :
    (copyCore o t dst hd sa ls w excl).1 = t ∨
    ∃ hd', Frame (16 + 12 * hd.hdr.archives.length) hd hd' ∧ (copyCore o t dst hd sa ls w excl).1 = t.set dst hd'.view := by
  rcases copyCore_ends o t dst hd sa ls w excl with ⟨e, _, h⟩ | ⟨k, h⟩ | ⟨ld, _, _, _, _, h⟩ | ⟨ld, hd', wr, _, _, _, hc, h⟩ <;>
    rw [h]
  · exact Or.inl rfl
  · exact Or.inl rfl
  · exact Or.inl rfl
  · exact Or.inr ⟨hd', copyArchives_frame g.placed hc, rfl⟩

theorem copyWith_clockAll {rd : Tree → R (Header × List (Option Series))} (hl : LayInRange c.lay) (hz : ClockAll o t w.now)
    (hzc : ∀ disk h, createHandle o c.agg c.xff c.lay = .ok (disk, h) → ClockOK h w.now) :
    ClockAll o (copyWith o rd excl t dst c w).1 w.now := by
  rcases copyWith_ends o rd excl t dst c w with ⟨e, _, h⟩ | ⟨t1, hd, hoc, ⟨e, _, h⟩ | ⟨hs, ls, _, h⟩⟩ <;> rw [h]
  · exact hz
  · exact (openOrCreate_good hl hz hzc hoc).2.2
  · obtain ⟨g, z, hz'⟩ := openOrCreate_good hl hz hzc hoc
    rcases copyCore_tree o t1 dst hd hs.archives ls w excl g with e | ⟨hd', fr, e⟩ <;> rw [e]
    · exact hz'
    · exact clockAll_set hz' ((openOrCreate_published o t t1 dst c hl hd hoc).1.of_frame fr) (clockOK_of_hdr z fr.1)

/-- a `copy` leaves every file of the tree inside the zone -/
theorem copyOne_clockAll (o : FOps) (t : Tree) (src dst : String) (c : CopyOpts) (w : Window) (hl : LayInRange c.lay)
    (hz : ClockAll o t w.now)
    (hzc : ∀ disk h, createHandle o c.agg c.xff c.lay = .ok (disk, h) → ClockOK h w.now) :
    ClockAll o (copyOne o t src dst c w).1 w.now :=
  copyWith_clockAll hl hz hzc

/-- **copy over a list of files never panics** -/
theorem copyMany_total (o : FOps) (c : CopyOpts) (w : Window) (hl : LayInRange c.lay)
    (hzc : ∀ disk h, createHandle o c.agg c.xff c.lay = .ok (disk, h) → ClockOK h w.now) :
    ∀ (pairs : List (String × String)) (t : Tree), ClockAll o t w.now → (copyMany o c w t pairs).2.1 ≠ .panic := by
  intro pairs t hz
  rw [copyMany_run]
  exact runCopies_ne_panic _ (ClockAll o · w.now)
    (fun t (p : String × String) hz =>
      ⟨copyOne_total o t p.1 p.2 c w hl hz hzc, copyOne_clockAll o t p.1 p.2 c w hl hz hzc⟩) pairs t hz

/-- **diff over a list of files never panics** -/
theorem diffMany_total (o : FOps) (t : Tree) (w : Window) (hz : ClockAll o t w.now) :
    ∀ (pairs : List (String × String)) (found : Bool), (diffMany o t w pairs found).1 ≠ .panic := by
  intro pairs found
  rw [diffMany_verdict]
  apply verdict_ne_panic
  intro oc hoc
  obtain ⟨p, _, rfl⟩ := List.mem_map.1 hoc
  exact diffOne_total o t p.1 p.2 w hz

/-- **sum-copy over a list of items never panics** -/
theorem sumCopyMany_total (o : FOps) (c : CopyOpts) (w : Window) (hl : LayInRange c.lay)
    (hzc : ∀ disk h, createHandle o c.agg c.xff c.lay = .ok (disk, h) → ClockOK h w.now) :
    ∀ (items : List (List String × String)) (t : Tree), ClockAll o t w.now →
      (sumCopyMany o c w t items).2.1 ≠ .panic := by
  intro items t hz
  rw [sumCopyMany_run]
  exact runCopies_ne_panic _ (ClockAll o · w.now)
    (fun t (p : List String × String) hz =>
      ⟨sumCopy_total o t p.1 p.2 c w hl hz hzc, copyWith_clockAll hl hz hzc⟩) items t hz

/-- **sum-diff over a list of items never panics** -/
theorem sumDiffMany_total (o : FOps) (t : Tree) (w : Window) (hz : ClockAll o t w.now) :
    ∀ (items : List (List String × String)) (found : Bool), (sumDiffMany o t w items found).1 ≠ .panic := by
  intro items found
  rw [sumDiffMany_verdict]
  apply verdict_ne_panic
  intro oc hoc
  obtain ⟨p, _, rfl⟩ := List.mem_map.1 hoc
  exact sumDiff_total o t p.1 p.2 w hz

end Wsp.C16T
