/-
  C16, the totality clause for the writing commands: `copy`, `sum-copy` and `generate` never
  end in a panic — with the clock past every retention involved and before 2038 (generate: any
  clock), layouts a Go caller can pass, whatever bytes the files of the tree hold.
-/
import Wsp.Props.C16Total
import Wsp.Props.Reopen
namespace Wsp.C16T
open Wsp.Total Wsp.Cmd

variable {o : FOps} {t t' : Tree} {dst : String} {c : CopyOpts} {w : Window} {h h' hd : Handle} {now : Nat}
  {ls : List (Option Series)} {excl : Bool} {agg : Nat} {xff : UInt32} {lay : List (Int × Nat)}

theorem clockOK_of_hdr (z : ClockOK h now) (hh : h'.hdr = h.hdr) : ClockOK h' now := by
  intro a ha
  unfold Handle.archs at ha
  rw [hh] at ha
  exact z a ha

theorem newHeader_np : ¬ IsPanic (newHeader o agg xff lay) := by
  rintro ⟨w, hh⟩
  cases newHeader_error hh

theorem createHandle_np : ¬ IsPanic (createHandle o agg xff lay) := by
  rintro ⟨w, hh⟩
  rw [createHandle_eq] at hh
  obtain ⟨k, hk⟩ := recreateHandle_error hh
  cases hk

theorem clockAll_set (hz : ClockAll o t now) (r : Wsp.Reopen.Reopenable o h) (z : ClockOK h now) :
    ClockAll o (t.set dst h.view) now := by
  intro p b h' hp ho
  by_cases hpd : p = dst
  · rw [hpd, get_set_same] at hp
    injection hp with hp; subst hp
    rw [Wsp.Reopen.open_reopenable o h r] at ho
    injection ho with ho; subst ho
    exact z
  · rw [get_set_ne hpd] at hp
    exact hz p b h' hp ho

theorem openOrCreate_good (hl : LayInRange c.lay) (hz : ClockAll o t now)
    (hzc : ∀ disk h, createHandle o c.agg c.xff c.lay = .ok (disk, h) → ClockOK h now)
    (hoc : openOrCreate o t dst c = .ok (t', hd)) :
    Good hd ∧ ClockOK hd now ∧ ClockAll o t' now := by
  rcases openOrCreate_ok hoc with ⟨b, hb, ho, rfl⟩ | ⟨_, rfl, disk, hc⟩
  · exact ⟨open_good o b _ hd ho, hz dst b hd hb ho, hz⟩
  · have zc := hzc disk hd hc
    exact ⟨create_good o _ _ _ hl disk hd hc, zc,
      clockAll_set hz (Wsp.Reopen.created_reopenable o _ _ _ hl disk hd hc) zc⟩

theorem openOrCreate_np : ¬ IsPanic (openOrCreate o t dst c) := by
  unfold openOrCreate
  cases h1 : newHeader o c.agg c.xff c.lay with
  | error e => exact np_of_error newHeader_np h1
  | ok _ =>
    dsimp only
    split
    · split
      · exact np_err _
      · exact np_ok _
    · cases h2 : createHandle o c.agg c.xff c.lay with
      | error e => exact np_of_error createHandle_np h2
      | ok r => exact np_ok _

/-- a run of ⟦copyDifferentPoints⟧, for any fact about its fetches and batch updates -/
theorem copyArchives_post {E : Fault → Prop} {P : Handle → Prop}
    (fetch : ∀ {h : Handle} (i : Nat), P h →
      Post E (fun _ => True) (h.fetchFromArchive (i : Int) w.from_ w.until' w.now))
    (step : ∀ {h : Handle} (pts : List Point) (i : Nat), P h → Post E P (h.updateMany o pts (i : Int) w.now)) :
    ∀ (batches : List (List Point)) (h : Handle) (i : Nat), P h →
      Post E (fun r => P r.1) (copyArchives o ls excl w h i batches)
  | [], _, _, hP => hP
  | ps :: rest, h, i, hP => by
    rw [copyArchives_cons]
    have hc : Post E (fun _ => True) (copyPts o ls excl w h i ps) := by
      unfold copyPts
      split
      · trivial
      · split
        · trivial
        · have hf := fetch i hP
          cases hfe : h.fetchFromArchive (i : Int) w.from_ w.until' w.now with
          | error e => exact hf.of_error hfe
          | ok d => trivial
    cases hce : copyPts o ls excl w h i ps with
    | error e => exact hc.of_error hce
    | ok pts =>
      dsimp only
      have hs := step pts i hP
      cases hu : h.updateMany o pts (i : Int) w.now with
      | error e => exact hs.of_error hu
      | ok h' =>
        dsimp only
        have ih := copyArchives_post fetch step rest h' (i + 1) (hs.of_ok hu)
        cases hr : copyArchives o ls excl w h' (i + 1) rest with
        | error e => exact ih.of_error hr
        | ok r => exact (ih.of_ok hr : P r.1)

theorem copyArchives_np {batches : List (List Point)} {i : Nat} (g : Good h) (z : ClockOK h w.now) :
    ¬ IsPanic (copyArchives o ls excl w h i batches) :=
  (copyArchives_post (P := fun h' => Good h' ∧ h'.hdr = h.hdr)
    (fun _ gh => .of_np (fetch_total _ gh.1 _ _ _ _ (clockOK_of_hdr z gh.2)) fun _ _ => trivial)
    (fun pts i gh => .of_np (updateMany_total o _ gh.1 pts _ _).1 fun h' hu =>
      ⟨(updateMany_total o _ gh.1 pts _ _).2 h' hu, (updateMany_frame o _ h' gh.1.placed pts i w.now hu).1.trans gh.2⟩)
    batches h i ⟨g, rfl⟩).not_isPanic

theorem copyCore_np {sa : List Arch} (g : Good hd) (z : ClockOK hd w.now) :
    (copyCore o t dst hd sa ls w excl).2.1 ≠ .panic := by
  rcases copyCore_ends o t dst hd sa ls w excl with ⟨e, he, h⟩ | ⟨k, h⟩ | ⟨ld, _, _, _, _, h⟩ | ⟨ld, hd', wr, _, _, _, _, h⟩ <;>
    rw [h]
  · rcases he with he | ⟨bs, he⟩
    · exact ofFault_ne_panic he (fetchList_np g z)
    · exact ofFault_ne_panic he (copyArchives_np g z)
  · simp
  · simp
  · simp

/-- a copy whose source reader never panics inside the zone never panics (`hzc`: the clock is
    also inside the zone of the file the copy would create) -/
theorem copyWith_total {rd : Tree → R (Header × List (Option Series))} (hl : LayInRange c.lay) (hz : ClockAll o t w.now)
    (hzc : ∀ disk h, createHandle o c.agg c.xff c.lay = .ok (disk, h) → ClockOK h w.now)
    (hrd : ∀ t', ClockAll o t' w.now → ¬ IsPanic (rd t')) :
    (copyWith o rd excl t dst c w).2.1 ≠ .panic := by
  rcases copyWith_ends o rd excl t dst c w with ⟨e, he, h⟩ | ⟨t1, hd, hoc, ⟨e, he, h⟩ | ⟨hs, ls, _, h⟩⟩ <;> rw [h]
  · exact ofFault_ne_panic he openOrCreate_np
  · exact ofFault_ne_panic he (hrd t1 (openOrCreate_good hl hz hzc hoc).2.2)
  · obtain ⟨g, z, _⟩ := openOrCreate_good hl hz hzc hoc
    exact copyCore_np g z

theorem copyOne_total (o : FOps) (t : Tree) (src dst : String) (c : CopyOpts) (w : Window) (hl : LayInRange c.lay)
    (hz : ClockAll o t w.now)
    (hzc : ∀ disk h, createHandle o c.agg c.xff c.lay = .ok (disk, h) → ClockOK h w.now) :
    (copyOne o t src dst c w).2.1 ≠ .panic := by
  rw [copyOne_with]
  exact copyWith_total hl hz hzc fun _ hz' => readFile_np src hz'

theorem sumCopy_total (o : FOps) (t : Tree) (files : List String) (dst : String) (c : CopyOpts) (w : Window)
    (hl : LayInRange c.lay) (hz : ClockAll o t w.now)
    (hzc : ∀ disk h, createHandle o c.agg c.xff c.lay = .ok (disk, h) → ClockOK h w.now) :
    (sumCopy o t files dst c w).2.1 ≠ .panic := by
  rw [sumCopy_with]
  exact copyWith_total hl hz hzc fun _ hz' => sumFiles_np files hz'

theorem updateAll_np {pl : List (List Point)} {i : Nat} (g : Good h) :
    ¬ IsPanic (updateAll o h now i pl) :=
  (C20.updateAll_post (P := Good)
    (fun ps i g => .of_np (updateMany_total o _ g ps i now).1 (updateMany_total o _ g ps i now).2) pl h i g).not_isPanic

/-- **generate never panics**, whatever the random points are -/
theorem generate_total (o : FOps) (t : Tree) (dst : String) (c : CopyOpts) (pl : Option (List (List Point))) (now : Nat)
    (hl : LayInRange c.lay) : (generate o t dst c pl now).2 ≠ .panic := by
  unfold generate
  split
  · simp
  · split
    · rename_i e hc
      exact ofFault_ne_panic hc createHandle_np
    · rename_i disk h hc
      split
      · simp
      · split
        · rename_i e hu
          exact ofFault_ne_panic hu (updateAll_np (create_good o _ _ _ hl disk h hc))
        · simp

end Wsp.C16T
