/-
  A global invariant of every file: each archive is either never written (all slot times 0)
  or live — slot 0 carries a nonzero base interval below 2^31 that lies on the archive's
  step grid (`AllState`).  It holds of every created file and is kept by every single and
  batch update, direct writes and every level of propagation included, as long as the
  written times are below 2^31 and not before the coarsest step.  The history theorems of
  C01 and the copy theorem of C08 need exactly this of the archive they talk about.
-/
import Wsp.Props.C01Batch
import Wsp.Props.C02
namespace Wsp.Inv
open Wsp.Handle Wsp.C14 Wsp.Total Wsp.C01

def AllState (h : Handle) : Prop := ∀ (k : Nat) (a : Arch), h.archs[k]? = some a → ArchState h a

variable {h0 h h' : Handle} {k : Nat} {a : Arch} {L : Nat}

theorem regions_disjoint (g : Good h) {i j : Nat} {b : Arch} (hij : i ≠ j)
    (ha : h.archs[i]? = some a) (hb : h.archs[j]? = some b) :
    a.offset + 12 * a.n ≤ b.offset ∨ b.offset + 12 * b.n ≤ a.offset :=
  (Nat.lt_or_gt_of_ne hij).imp (fun hlt => (g.placedFrom ha j b hlt hb).lo)
    fun hgt => (g.placedFrom hb i a hgt ha).lo

theorem slot_end_le {off i j : Nat} (h : j < i) : off + 12 * j + 12 ≤ off + 12 * i := by
  rw [Nat.add_assoc, ← Nat.mul_succ]
  exact Nat.add_le_add_left (Nat.mul_le_mul_left 12 h) off

theorem putPointAt_other (g : Good h0) {k' : Nat} {b : Arch} (ha : h0.archs[k]? = some a)
    (hb : h0.archs[k']? = some b) (hk : k' ≠ k) {p : Point} (hp : p.t < 4294967296) {i : Nat}
    (hi : i < a.n) (hput : h.putPointAt p (a.offset + 12 * i) = .ok h') : SameOn b h h' := by
  refine ⟨putPointAt_len hput, fun j hj => (putPointAt_slots h h' p hp a i hput).2.1 b j ?_⟩
  -- the slot lies in its ring, and one of the two rings ends before the other begins
  exact (regions_disjoint g hk hb ha).imp
    (fun hlo => Nat.le_trans (slot_end_le hj) (Nat.le_trans hlo (Nat.le_add_right _ _)))
    fun hhi => Nat.le_trans (slot_end_le hi) (Nat.le_trans hhi (Nat.le_add_right _ _))

def Kept (h0 h : Handle) : Prop := AllState h ∧ Good h ∧ h.hdr = h0.hdr

theorem Kept.refl (g : Good h) (al : AllState h) : Kept h h := ⟨al, g, rfl⟩

theorem Kept.all (kp : Kept h0 h) : AllState h := kp.1

theorem Kept.good (kp : Kept h0 h) : Good h := kp.2.1

theorem Kept.hdr (kp : Kept h0 h) : h.hdr = h0.hdr := kp.2.2

theorem Kept.archs (kp : Kept h0 h) : h.archs = h0.archs := congrArg Header.archives kp.hdr

theorem Kept.trans (kp : Kept h0 h) (kp' : Kept h h') : Kept h0 h' := ⟨kp'.all, kp'.good, kp'.hdr.trans kp.hdr⟩

/-- writes that keep header and length, leave archive `k` in a state of the invariant and every
    other archive alone, keep the invariant -/
theorem Kept.of_write (kp : Kept h0 h) {H : Nat} (ha : h.archs[k]? = some a) (f : Frame H h h') (hself : ArchState h' a)
    (hothers : ∀ {k' : Nat} {b : Arch}, h.archs[k']? = some b → k' ≠ k → SameOn b h h') : Kept h0 h' := by
  refine ⟨fun k' b hb => ?_, kp.good.of_frame f, f.1.trans kp.hdr⟩
  have hb' : h.archs[k']? = some b := f.archs ▸ hb
  by_cases hk : k' = k
  · cases hk
    cases ha.symm.trans hb'
    exact hself
  · exact (kp.all k' b hb').of_sameOn (hothers hb' hk)

/-- **one aligned write keeps the invariant**: the written archive takes the write, every
    other archive is left alone -/
theorem store_kept (kp : Kept h0 h) (ha : h0.archs[k]? = some a) {t : Nat} {v : Val} (gt : AbsGrid a t)
    (hs : h.store a ⟨t, v⟩ = .ok h') : Kept h0 h' := by
  rw [← kp.archs] at ha
  obtain ⟨off, hoff, hput⟩ := store_ok_iff.1 hs
  have pa := kp.good.placed a (List.mem_of_getElem? ha)
  refine kp.of_write ha (store_frame pa hs)
    (reach_state (es := [some (t, v)]) (kp.all k a ha) (fun w hw => by simp [writesOf] at hw; exact hw ▸ gt)
      ⟨off, h', h', hoff, hput, SameOn.refl a h', SameOn.refl a h'⟩) fun hb hk => ?_
  obtain ⟨i, hi, rfl⟩ := getPointOffset_in_ring pa.npos pa.fit hoff
  exact putPointAt_other kp.good ha hb hk (by have := gt.1; simp; omega) hi hput

/-- `L` bounds every step from above and every step divides it (true of the coarsest step);
    written times are required ≥ `L` so that none aligns to 0, the never-written marker -/
def Coarse (h : Handle) (L : Nat) : Prop :=
  ∀ a ∈ h.archs, a.step ∣ (L : Int) ∧ a.step ≤ (L : Int) ∧ 0 < a.step

def LevelTime (a : Arch) (L t : Nat) : Prop := AbsGrid a t ∧ L ≤ t

theorem Coarse.ifw (c : Coarse h L) {i : Nat} (ha : h.archs[i]? = some a)
    {t : Nat} (ht : t < 2147483648) (hL : L ≤ t) : LevelTime a L (a.intervalForWrite t) := by
  obtain ⟨hd, hle, hs⟩ := c a (List.mem_of_getElem? ha)
  exact ifw_level hs hd hle ht hL

theorem Coarse.of_hdr (c : Coarse h L) (hh : h'.hdr = h.hdr) : Coarse h' L :=
  have e : h'.archs = h.archs := congrArg Header.archives hh
  fun a ha => c a (e ▸ ha)

/-- **the invariant as a rule of the update path**: the times that reach level `i` are grid
    times of archive `i`, not before `L` -/
theorem keptRule (o : FOps) (c : Coarse h0 L) :
    UpdRule o h0.archs (fun _ => True) (Kept h0) (fun i t => ∃ a, h0.archs[i]? = some a ∧ LevelTime a L t) :=
  .of_store Kept.archs (fun hl ⟨_, _, lt⟩ => ⟨_, hl, c.ifw hl lt.1.1 lt.2⟩)
    fun _ kp ha ⟨_, ha', lt⟩ hs => by
      cases ha.symm.trans ha'
      exact store_kept kp ha lt.1 hs

theorem putPoints_others (g : Good h0) {k' : Nat} {b : Arch} (ha : h0.archs[k]? = some a)
    (hb : h0.archs[k']? = some b) (hk : k' ≠ k) {base : Nat} {pts : List Point} (hpt : ∀ p ∈ pts, p.t < 4294967296)
    (hp : putPoints h a base pts = .ok h') : SameOn b h h' :=
  have pa := g.placed a (List.mem_of_getElem? ha)
  (putPoints_post (E := fun _ => True) (fun p hp s => .of_forall fun _ hput => s.trans
    (putPointAt_other g ha hb hk (hpt p hp) (slotIdx_lt pa.npos _ _) (pointOffsetAt_slot pa.npos pa.fit _ _ ▸ hput)))
    (SameOn.refl b h)).of_ok hp

theorem putAligned_kept (kp : Kept h0 h) (ha : h0.archs[k]? = some a)
    {aligned : List Point} (hal : ∀ d ∈ aligned, AbsGrid a d.t) (hp : h.putAligned a aligned = .ok h') :
    Kept h0 h' := by
  rw [← kp.archs] at ha
  refine kp.of_write ha (putAligned_frame (kp.good.placed a (List.mem_of_getElem? ha)) hp)
    (reach_state (kp.all k a ha) (fun w hw => ?_) (putAligned_reach (kp.all k a ha) hal hp)) fun hb hk => ?_
  · obtain ⟨d, hd, rfl⟩ := List.mem_map.1 (writesOf_points aligned ▸ hw)
    exact hal d hd
  · obtain ⟨_, base, _, _, hput⟩ := putAligned_ok_iff.1 hp
    exact putPoints_others kp.good ha hb hk (fun d hd => by have := (hal d hd).1; omega) hput

theorem alignPoints_level (c : Coarse h L) {i : Nat} (ha : h.archs[i]? = some a)
    {ps : List Point} (hps : ∀ p ∈ ps, p.t < 2147483648 ∧ L ≤ p.t) : ∀ d ∈ alignPoints a ps, LevelTime a L d.t := by
  intro d hd
  obtain ⟨q, hq, e⟩ := alignPoints_times a (fun t => t < 2147483648 ∧ L ≤ t) hps d hd
  exact e ▸ c.ifw ha hq.1 hq.2

theorem archiveUpdateMany_kept (o : FOps) (c : Coarse h0 L) (kp : Kept h0 h)
    {ps : List Point} (hps : ∀ p ∈ ps, p.t < 2147483648 ∧ L ≤ p.t) :
    Post (fun _ => True) (Kept h0) (archiveUpdateMany o h ps k) :=
  archiveUpdateMany_post (keptRule o c) kp (fun _ => trivial)
    (fun _ ha => .of_forall fun _ hw => putAligned_kept kp ha (fun d hd => (alignPoints_level c ha hps d hd).1) hw)
    fun _ l ha hl d hd =>
      have lt := alignPoints_level c ha hps d hd
      ⟨l, hl, c.ifw hl lt.1.1 lt.2⟩

/-- **a batch update keeps the invariant** -/
theorem updateMany_allstate (o : FOps) (h h' : Handle) (g : Good h) (al : AllState h) (L : Nat) (c : Coarse h L)
    (ps : List Point) (k : Int) (now : Nat) (hps : ∀ p ∈ ps, p.t < 2147483648 ∧ L ≤ p.t)
    (hp : h.updateMany o ps k now = .ok h') : AllState h' ∧ Good h' ∧ h'.hdr = h.hdr :=
  (updateMany_post k now Kept.archs (fun kp _ _ _ hq => archiveUpdateMany_kept o c kp hq)
    (Kept.refl g al) hps).of_ok hp

theorem updatePoint_allstate (o : FOps) (h h' : Handle) (g : Good h) (al : AllState h) (L : Nat) (c : Coarse h L)
    (k : Int) (t : Nat) (v : Val) (now : Nat) (ht : t < 2147483648 ∧ L ≤ t)
    (hp : h.updatePoint o k t v now = .ok h') : AllState h' ∧ Good h' ∧ h'.hdr = h.hdr :=
  have lvl {i : Nat} {a : Arch} (ha : h.archs[i]? = some a) := c.ifw ha ht.1 ht.2
  (updatePoint_post (keptRule o c) (Kept.refl g al) (fun _ => trivial) (fun _ => trivial)
    (fun _ ha => .of_forall fun _ hs => store_kept (Kept.refl g al) ha (lvl ha).1 hs)
    fun _ l ha hl => ⟨l, hl, c.ifw hl (lvl ha).1.1 (lvl ha).2⟩).of_ok hp

theorem wfFrom_coarse : ∀ (as : List Arch) (off : Nat), WFFrom off as → as ≠ [] →
    ∃ last, as.getLast? = some last ∧ ∀ a ∈ as, a.step ∣ last.step ∧ a.step ≤ last.step ∧ 0 < a.step
  | [], _, _, h => absurd rfl h
  | [x], _, hw, _ => ⟨x, rfl, fun a ha => by
      obtain rfl := List.mem_singleton.1 ha
      exact ⟨Int.dvd_refl _, Int.le_refl _, hw.1.1⟩⟩
  | x :: y :: r, _, hw, _ => by
    obtain ⟨okx, -, pair, ht⟩ := (wfFrom_cons ..).1 hw
    obtain ⟨last, hl, hall⟩ := wfFrom_coarse (y :: r) _ ht (by simp)
    have hy := hall y (by simp)
    have pxy := pair y rfl
    refine ⟨last, by simpa using hl, fun a ha => ?_⟩
    rcases List.mem_cons.1 ha with rfl | ha
    · exact ⟨Int.dvd_trans (Int.dvd_of_emod_eq_zero pxy.2.1) hy.1, by have := pxy.1; omega, okx.1⟩
    · exact hall a ha

theorem exists_coarse (h : Handle) (g : Good h) : ∃ L : Nat, Coarse h L ∧ L < 2147483648 := by
  obtain ⟨last, hl, hall⟩ := wfFrom_coarse _ _ g.wf.2.2 g.wf.1
  have hst := g.hdrOK.steps last (List.mem_of_getLast? hl)
  have e : ((last.step.toNat : Nat) : Int) = last.step := by omega
  exact ⟨last.step.toNat, fun a ha => e ▸ hall a ha, by omega⟩

/-- every archive of a created file is in the never-written state -/
theorem created_allstate (o : FOps) (agg : Nat) (xff : UInt32) (lay : List (Int × Nat)) (hl : LayInRange lay)
    (disk : Bytes) (h : Handle) (hc : createHandle o agg xff lay = .ok (disk, h)) : AllState h :=
  fun _ a ha => Or.inl (created_fresh o agg xff lay hl disk h hc a (List.mem_of_getElem? ha))

end Wsp.Inv
