/-
  Totality of the library on every file that opens (anchors: C15 "a hostile file cannot crash
  the process", C02/C03 "an update either fails with an error or completes").

  `Good h` — the header passed ⟦ArchiveInfoList.validate⟧, its fields are in their Go ranges
  and the aggregation method is storable — holds of every handle `Open` returns, whatever
  bytes the file holds, and of every handle `Create` returns; it is preserved by every
  update; and on a `Good` handle no single or batch update panics, for any value, any time,
  any clock, with archive id −1 or an id in the list (Go indexes the slice with a caller's
  id unchecked: an id outside the list is a caller error and does panic).  Lifted to every
  operation sequence of the file/handle state machine, with the file replaced by arbitrary
  bytes at any point (`never_panics`).
-/
import Wsp.Proofs.NoPanic
import Wsp.Proofs.OpenLemmas
import Wsp.Props.C05
import Wsp.Props.C07
import Wsp.Props.C15
import Wsp.Props.C20
import Wsp.Props.C04
namespace Wsp.Total
open Wsp.Handle Wsp.C14

def Good (h : Handle) : Prop := C05.ValidHandle h ∧ validAgg h.hdr.agg = true

variable {h : Handle}

theorem Good.of_wf {o : FOps} (wf : HeaderWF o h.hdr) : Good h := ⟨⟨wf.valid, wf.archs⟩, wf.agg⟩

/-- **whatever the file holds, a handle that `Open` returns is `Good`** -/
theorem open_good (o : FOps) (bytes : Bytes) (ps : Nat) (h : Handle)
    (ho : openBytes o bytes ps = .ok h) : Good h :=
  Good.of_wf (readHeader_ok_iff.1 (openBytes_ok.1 ho).1).1

/-- the (secondsPerPoint, numberOfPoints) pairs a Go caller can pass: `Duration` is an
    int32, the count a uint32 -/
def LayInRange (lay : List (Int × Nat)) : Prop :=
  ∀ p ∈ lay, -2147483648 ≤ p.1 ∧ p.1 < 2147483648 ∧ p.2 < 4294967296

theorem fillOffsetsFrom_wf {as : List Arch} {off : Nat} (hoff : off < 4294967296)
    (hr : ∀ a ∈ as, -2147483648 ≤ a.step ∧ a.step < 2147483648 ∧ a.n < 4294967296) :
    ∀ a ∈ fillOffsetsFrom off as, ArchWF a := by
  induction as generalizing off with
  | nil => simp [fillOffsetsFrom]
  | cons x xs ih =>
    obtain ⟨hx, hxs⟩ := List.forall_mem_cons.1 hr
    exact List.forall_mem_cons.2 ⟨⟨hoff, hx.1, hx.2.1, hx.2.2⟩, ih (u32_lt _) hxs⟩

/-- **what ⟦NewHeader⟧ returns for a layout in the Go ranges is well-formed** in the sense of the
    codec: `Create` and `Create` over an existing file rest on this alone -/
theorem newHeader_wf {o : FOps} {agg : Nat} {xff : UInt32} {lay : List (Int × Nat)} {hd : Header} (hl : LayInRange lay)
    (hn : newHeader o agg xff lay = .ok hd) : HeaderWF o hd := by
  obtain ⟨ha, hx, hv, has, rfl, rfl, hc, last, hm⟩ := newHeader_ok hn
  have hr : ∀ a ∈ hd.archives, ArchWF a := by
    rw [has]
    exact fillOffsetsFrom_wf (u32_lt _) fun a ha => by
      obtain ⟨p, hp, rfl⟩ := List.mem_map.1 ha
      exact hl p hp
  have hsmall := ((validateArchs_true_iff _).1 hv).2.1
  exact ⟨ha, hx, hm ▸ (i32_range _).1, hm ▸ (i32_range _).2, by rw [hc, u32_of_nat _ (by omega)],
    by rw [hc]; exact u32_lt _, hr, hv⟩

theorem create_good (o : FOps) (agg : Nat) (xff : UInt32) (lay : List (Int × Nat)) (hl : LayInRange lay)
    (disk : Bytes) (h : Handle) (hc : createHandle o agg xff lay = .ok (disk, h)) : Good h :=
  Good.of_wf (newHeader_wf hl (createHandle_ok_iff.1 hc).1)

theorem Good.wf (g : Good h) : WellFormedArchs h.hdr.archives :=
  (validateArchs_true_iff _).1 g.1.valid

theorem Good.hdrOK (g : Good h) : HdrOK h :=
  ⟨g.2, fun a ha => have ok := wfFrom_archOK g.wf.2.2 a ha; ⟨ok.1, ok.step_lt⟩⟩

theorem Good.placed {h : Handle} (g : Good h) :
    Placed h (16 + 12 * h.hdr.archives.length) h.hdr.total := placed_of_valid h g.1.valid g.1.range

/-- behind archive `k` of a good header lie the archives after it -/
theorem Good.placedFrom (g : Good h) {k : Nat} {a : Arch} (ha : h.archs[k]? = some a) :
    PlacedFrom h (k + 1) (a.offset + 12 * a.n) h.hdr.total :=
  placedFrom_of_valid h g.1.valid g.1.range k a ha

theorem Good.ne (g : Good h) : h.archs ≠ [] := g.wf.1

theorem Good.of_frame {h' : Handle} {H : Nat} (g : Good h) (f : Frame H h h') : Good h' :=
  ⟨⟨f.1 ▸ g.1.valid, f.1 ▸ g.1.range⟩, f.1 ▸ g.2⟩

def IdOK (h : Handle) (k : Int) : Prop := k = -1 ∨ (0 ≤ k ∧ k < h.archs.length)

/-- **a single update never panics** on a `Good` handle and leaves it `Good` -/
theorem update_total (o : FOps) (h : Handle) (g : Good h) (k : Int) (hk : IdOK h k) (t : Nat) (v : Val) (now : Nat) :
    ¬ IsPanic (h.updatePoint o k t v now) ∧ ∀ h', h.updatePoint o k t v now = .ok h' → Good h' :=
  ⟨updatePoint_np o h g.placed g.hdrOK g.ne k hk t v now,
   fun h' hp => g.of_frame (updatePoint_frame o h h' g.placed k t v now hp)⟩

/-- **a batch update never panics** on a `Good` handle — any points, in any order, any id
    (an id that names no archive writes nothing), any clock — and leaves it `Good` -/
theorem updateMany_total (o : FOps) (h : Handle) (g : Good h) (ps : List Point) (k : Int) (now : Nat) :
    ¬ IsPanic (h.updateMany o ps k now) ∧ ∀ h', h.updateMany o ps k now = .ok h' → Good h' :=
  ⟨updateMany_np o h g.placed g.hdrOK ps k now,
   fun h' hp => g.of_frame (updateMany_frame o h h' g.placed ps k now hp)⟩

def WGood (w : World) : Prop := ∀ h, w.h = some h → Good h

/-- the caller obligations of one operation: Go-typed layout on create, a valid id on a
    single update -/
def OpOK (w : World) : LibOp → Prop
  | .create lay _ _ => LayInRange lay
  | .createOver lay _ _ => LayInRange lay
  | .upd k _ _ _ => ∀ h, w.h = some h → IdOK h k
  | _ => True

theorem recreate_no_panic (o : FOps) (agg : Nat) (xff : UInt32) (lay : List (Int × Nat)) (old : Bytes) (s : String) :
    recreateHandle o agg xff lay old ≠ .error (.panic s) := by
  intro hc
  obtain ⟨k, hk⟩ := recreateHandle_error hc
  cases hk

/-- creating a file that is not there: a good handle, or an error that is not a panic -/
theorem createFresh_good (o : FOps) (w : World) (lay : List (Int × Nat)) (agg : Nat) (xff : UInt32)
    (wg : WGood w) (hop : LayInRange lay) :
    WGood (w.createFresh o lay agg xff).1 ∧ ∀ s, (w.createFresh o lay agg xff).2 ≠ .fault (.panic s) := by
  unfold World.createFresh
  split
  · rename_i d h hc
    exact ⟨fun _ hh => by cases hh; exact create_good o agg xff lay hop d h hc, nofun⟩
  · rename_i e hc
    exact ⟨wg, fun s hs => by cases hs; exact recreate_no_panic o agg xff lay [] s (createHandle_eq .. ▸ hc)⟩

theorem _root_.Wsp.Recreate.recreate_good (o : FOps) (agg : Nat) (xff : UInt32) (lay : List (Int × Nat)) (hl : LayInRange lay)
    (old disk : Bytes) (h : Handle) (hc : recreateHandle o agg xff lay old = .ok (disk, h)) : Good h :=
  Good.of_wf (newHeader_wf hl (recreateHandle_ok_iff.1 hc).1)

theorem step_good (o : FOps) {w : World} {op : LibOp} (wg : WGood w) (hop : OpOK w op) :
    WGood (w.step o op).1 ∧ ∀ s, (w.step o op).2 ≠ .fault (.panic s) := by
  obtain ⟨hH, hF⟩ := World.step_inv o w op
  refine ⟨fun h' hh => ?_, fun s hf => ?_⟩
  · rcases hH h' hh with hk | m
    · exact wg h' hk
    · cases m with
      | create ho hc => exact Recreate.recreate_good o _ _ _ (by rcases ho with rfl | rfl <;> exact hop) _ _ h' hc
      | open_ _ ho => exact open_good o _ _ h' ho
      | upd hw hu => exact (update_total o _ (wg _ hw) _ (hop _ hw) _ _ _).2 h' hu
      | updMany hw hu => exact (updateMany_total o _ (wg _ hw) _ _ _).2 h' hu
  · cases hF _ hf with
    | create hc => exact recreate_no_panic o _ _ _ _ s hc
    | open_ ho => exact openBytes_error ho s rfl
    | upd hw hu => exact (update_total o _ (wg _ hw) _ (hop _ hw) _ _ _).1 ⟨s, hu⟩
    | updMany hw hu => exact (updateMany_total o _ (wg _ hw) _ _ _).1 ⟨s, hu⟩

def runObs (o : FOps) : World → List LibOp → List OpObs
  | _, [] => []
  | w, op :: ops => (w.step o op).2 :: runObs o (w.step o op).1 ops

def OpsOK (o : FOps) : World → List LibOp → Prop
  | _, [] => True
  | w, op :: ops => OpOK w op ∧ OpsOK o (w.step o op).1 ops

/-- **no reachable state panics**: starting with no handle and any file (or none), through
    any sequence of create / open / update / batch update / sync / close, with the file
    replaced by arbitrary bytes or removed at any point, no operation's outcome is a panic -/
theorem never_panics (o : FOps) (ops : List LibOp) :
    ∀ (w : World), WGood w → OpsOK o w ops → ∀ ob ∈ runObs o w ops, ∀ s, ob ≠ .fault (.panic s) := by
  induction ops with
  | nil => intro w _ _ ob hob; simp [runObs] at hob
  | cons op ops ih =>
    intro w wg hok ob hob s
    have st := step_good o wg hok.1
    simp only [runObs, List.mem_cons] at hob
    rcases hob with rfl | hob
    · exact st.2 s
    · exact ih _ st.1 hok.2 ob hob s

/-- the hypotheses are met from the start: a world with any disk content and no handle -/
theorem start_good (d : Option Bytes) : WGood ⟨d, none⟩ := by intro h hh; cases hh

/-- the clock zone in which timestamps do not wrap: every retention lies behind `now`, and
    `now` plus one step stays below 2^31 (true of every real clock until 2038) -/
def ClockOK (h : Handle) (now : Nat) : Prop :=
  ∀ a ∈ h.archs, a.step * (a.n : Int) ≤ now ∧ (now : Int) + a.step < 2147483648

/-- **a fetch never panics** on a `Good` handle inside the clock zone, for any archive id,
    any window: every failure is an ordinary error -/
theorem fetch_total (h : Handle) (g : Good h) (k : Int) (f u now : Nat) (hz : ClockOK h now) :
    ¬ IsPanic (h.fetchFromArchive k f u now) := by
  unfold fetchFromArchive
  cases hp : fetchPlan h.archs k f u now with
  | error e =>
    -- the plan fails only with rangeError / outOfRange
    have hcl := C04.fail_class h.archs k f u now
    rintro ⟨w, ⟨⟩⟩
    by_cases h1 : f > u
    · rw [hcl.1 h1] at hp; cases hp
    · rcases (C04.fail_iff h.archs g.ne k f u now).1 ⟨_, hp⟩ with h | h2
      · exact h1 h
      · rw [hcl.2 h1 h2] at hp; cases hp
  | ok r =>
    cases r with
    | none => exact np_ok _
    | some p =>
      dsimp only
      have hmem : p.a ∈ h.archs := List.mem_of_getElem? (C04.fetchPlan_some hp).1
      have ok := wfFrom_archOK g.wf.2.2 p.a hmem
      have z := hz p.a hmem
      -- the window is `c ≤ N` whole steps, so the (signed) span is `step * c`, not negative
      obtain ⟨c, _, hcn, hU, _⟩ := C04.plan_window hp ok z.1 z.2
      have hcnt : 0 ≤ Int.tdiv (tsSub p.untilI p.fromI) p.a.step := by
        have hsc : p.a.step * (c : Int) ≤ p.a.step * p.a.n :=
          Int.mul_le_mul_of_nonneg_left (Int.ofNat_le.2 hcn) (Int.le_of_lt ok.1)
        have h0 := Int.mul_nonneg (Int.le_of_lt ok.1) (Int.natCast_nonneg c)
        refine Int.tdiv_nonneg ?_ (Int.le_of_lt ok.1)
        unfold tsSub
        rw [hU, window_cast ok.1, Int.add_comm, Int.add_sub_cancel, i32_id _ (Int.le_trans (by decide) h0)
          (Int.lt_of_le_of_lt (Int.le_trans hsc ok.2.2) (by decide))]
        exact h0
      cases hx : h.fetchExec p with
      | ok s => exact np_ok _
      | error e => exact np_of_error (fetchExec_np hcnt) hx

/-- **reading the raw slots of an archive in the list never panics** -/
theorem raw_total (h : Handle) (k : Int) (hk : 0 ≤ k ∧ k < h.archs.length) : ¬ IsPanic (h.rawPoints k) := by
  unfold rawPoints
  rw [if_neg (by omega), List.getElem?_eq_getElem (by omega)]
  exact readPoints_np

-- offsets: 40 = 16 + 12·2 (header), 136 = 40 + 12·8, file length 208 = 136 + 12·6
def exHandle : Handle := ⟨⟨1, 24, 0x3F000000, 2, [⟨40, 1, 8⟩, ⟨136, 4, 6⟩]⟩, List.replicate 208 0⟩

example : Good exHandle := by
  refine ⟨⟨by decide, ?_⟩, by decide⟩
  intro a ha
  simp only [exHandle, List.mem_cons, List.not_mem_nil, or_false] at ha
  rcases ha with rfl | rfl <;> exact ⟨by decide, by decide, by decide, by decide⟩

example : ClockOK exHandle 1700000000 := by unfold ClockOK; decide

example : IdOK exHandle (-1) ∧ IdOK exHandle 1 := ⟨Or.inl rfl, Or.inr ⟨by decide, by decide⟩⟩

end Wsp.Total
