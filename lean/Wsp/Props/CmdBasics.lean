/-
  What the command layer is made of, said once: the three `Except` loops over a list are one
  indexed traversal (`collect`), ⟦fetchTimeSeriesList⟧ and view-raw's reading one selection
  (`select`); `readFile`, `openOrCreate`, `copyArchives` and `copyCore` each have an inversion
  lemma; `copyOne` / `sumCopy` are one command over a source reader (`copyWith`), `diffOne` /
  `sumDiff` one comparison of two reads (`diffWith`); the verdict of a comparing run over
  several files is a function of the per-file outcomes (`verdict`), and the two copying runs
  are one loop over a per-item command (`runCopies`).
-/
import Wsp.Model.Cmd

namespace Wsp.C12
open Wsp.Cmd Wsp.Handle

/-- what ⟦ViewRawCommand.execute⟧ does with the header and the raw lists it got -/
def rawOut (w : Window) (sort : Bool) (hdr : Header) (pl : List (List Point)) : Outcome × Option Header × List Rec :=
  let pl := (pl.zip hdr.archives).map fun (ps, a) => filterRaw a w.from_ w.until' ps
  let pl := if sort then pl.map sortByTime else pl
  (.ok, some hdr, recsOf pl)

end Wsp.C12

namespace Wsp.Cmd

variable {α β : Type} {o : FOps} {t t' : Tree} {p dst : String} {c : CopyOpts} {w : Window} {h hd : Handle}
  {id : Int} {f u now : Nat} {e : Fault} {excl chk : Bool} {ls ld : List (Option Series)}

theorem Outcome.ofFault_ne_ok : Outcome.ofFault e ≠ .ok := by
  cases e <;> simp [Outcome.ofFault]

theorem Outcome.ofFault_eq_panic : Outcome.ofFault e = .panic ↔ ∃ s, e = .panic s := by
  cases e <;> simp [Outcome.ofFault]

theorem bind_ok_iff {x : R α} {k : α → R β} {b : β} : x >>= k = .ok b ↔ ∃ a, x = .ok a ∧ k a = .ok b := by
  cases x <;> simp [bind, Except.bind]

theorem getElem?_range_map {n : Nat} {g : Nat → α} {k : Nat} {y : α} :
    ((List.range n).map g)[k]? = some y ↔ k < n ∧ g k = y := by
  by_cases hk : k < n <;> simp [hk]

theorem getD_range_map {n k : Nat} (hk : k < n) (g : Nat → α) (d : α) : ((List.range n).map g).getD k d = g k := by
  simp [List.getD, hk]

/-- the command layer's list loop: `f` on each element with its index (counted from the start given), or the first error -/
def collect (f : Nat → α → R β) : Nat → List α → R (List β)
  | _, [] => pure []
  | i, a :: as => do
    let b ← f i a
    let rest ← collect f (i + 1) as
    pure (b :: rest)

theorem collect_ok_iff {f : Nat → α → R β} {as : List α} {i : Nat} {l : List β} :
    collect f i as = .ok l ↔
      l.length = as.length ∧ ∀ j a b, as[j]? = some a → l[j]? = some b → f (i + j) a = .ok b := by
  induction as generalizing i l with
  | nil =>
    refine ⟨fun h => ?_, fun ⟨hl, _⟩ => ?_⟩
    · cases h
      exact ⟨rfl, fun j a b ha => nomatch ha⟩
    · rw [List.eq_nil_of_length_eq_zero hl]
      rfl
  | cons a as ih =>
    simp only [collect, bind_ok_iff, pure, Except.pure, Except.ok.injEq]
    constructor
    · rintro ⟨b, hb, l', hc, rfl⟩
      obtain ⟨hl, h⟩ := ih.1 hc
      refine ⟨congrArg Nat.succ hl, fun j a' b' ha hb' => ?_⟩
      cases j with
      | zero => cases ha; cases hb'; exact hb
      | succ j => exact Nat.add_right_comm i 1 j ▸ h j a' b' ha hb'
    · rintro ⟨hl, h⟩
      cases l with
      | nil => cases hl
      | cons b l' =>
        exact ⟨b, h 0 a b rfl rfl, l', ih.2 ⟨Nat.succ.inj hl, fun j a' b' ha hb' =>
          Nat.add_right_comm i 1 j ▸ h (j + 1) a' b' ha hb'⟩, rfl⟩

theorem collect_range {f : Nat → α → R β} {i : Nat} {as : List α} {g : Nat → β}
    (h : ∀ j (hj : j < as.length), f (i + j) as[j] = .ok (g j)) :
    collect f i as = .ok ((List.range as.length).map g) := by
  refine collect_ok_iff.2 ⟨by simp, fun j a b ha hb => ?_⟩
  obtain ⟨hj, rfl⟩ := List.getElem?_eq_some_iff.1 ha
  obtain ⟨_, rfl⟩ := getElem?_range_map.1 hb
  exact h j hj

theorem fetchAll_eq (h : Handle) (now f u : Nat) : ∀ (as : List Arch) (i : Nat),
    fetchAll h now f u i as = collect (fun i _ => h.fetchFromArchive (i : Int) f u now) i as
  | [], _ => rfl
  | _ :: as, i => by
    simp only [fetchAll, collect, fetchAll_eq h now f u as]
    cases h.fetchFromArchive (i : Int) f u now with
    | error e => rfl
    | ok s => cases collect (fun i _ => h.fetchFromArchive (i : Int) f u now) (i + 1) as <;> rfl

theorem rawAll_eq (h : Handle) : ∀ (as : List Arch) (i : Nat),
    rawAll h i as = collect (fun i _ => h.rawPoints (i : Int)) i as
  | [], _ => rfl
  | _ :: as, i => by
    simp only [rawAll, collect, rawAll_eq h as]
    cases h.rawPoints (i : Int) with
    | error e => rfl
    | ok s => cases collect (fun i _ => h.rawPoints (i : Int)) (i + 1) as <;> rfl

theorem readAll_eq (o : FOps) (t : Tree) (w : Window) (fs : List String) :
    sumFiles.readAll o t w fs = collect (fun _ f => readFile o t f w.archiveID w.from_ w.until' w.now) 0 fs := by
  generalize 0 = i  -- the traversal ignores the index
  induction fs generalizing i with
  | nil => rfl
  | cons f fs ih =>
    simp only [sumFiles.readAll, collect, ih (i + 1)]
    cases readFile o t f w.archiveID w.from_ w.until' w.now with
    | error e => rfl
    | ok s => cases collect (fun _ f => readFile o t f w.archiveID w.from_ w.until' w.now) (i + 1) fs <;> rfl

/-- a selection of archives (`-1`: all; `k`: the k-th only, the others stand at `dflt`) applied
    to a per-archive reader: the shape ⟦fetchTimeSeriesList⟧ and view-raw's reading share -/
def select (dflt : α) (rd : Int → R α) (as : List Arch) (id : Int) : R (List α) :=
  if id = -1 then collect (fun i _ => rd i) 0 as
  else if 0 ≤ id ∧ id < as.length then
    match rd id with
    | .error e => .error e
    | .ok x => .ok ((List.range as.length).map fun (i : Nat) => if (i : Int) = id then x else dflt)
  else .error (.err .outOfRange)

theorem fetchList_eq (h : Handle) (id : Int) (f u now : Nat) :
    fetchList h id f u now = select none (h.fetchFromArchive · f u now) h.archs id := by
  simp only [fetchList, select, fetchAll_eq]
  by_cases h1 : id = -1
  · rw [if_pos h1, if_pos h1]
  · rw [if_neg h1, if_neg h1]
    by_cases h2 : 0 ≤ id ∧ id < h.archs.length
    · rw [if_pos h2, if_pos h2]
      cases h.fetchFromArchive id f u now <;> rfl
    · rw [if_neg h2, if_neg h2]

theorem select_all (dflt : α) (rd : Int → R α) (as : List Arch) :
    select dflt rd as (-1) = collect (fun i _ => rd i) 0 as := by
  simp [select]

theorem select_one {dflt : α} {rd : Int → R α} {as : List Arch} {k : Nat} (hk : k < as.length) :
    select dflt rd as (k : Int) =
      match rd k with
      | .error e => .error e
      | .ok x => .ok ((List.range as.length).map fun (i : Nat) => if (i : Int) = (k : Int) then x else dflt) := by
  have h1 : ¬ ((k : Int) = -1) := by omega
  have h2 : 0 ≤ (k : Int) ∧ (k : Int) < as.length := by omega
  simp only [select, if_neg h1, if_pos h2]

theorem select_length {dflt : α} {rd : Int → R α} {as : List Arch} {l : List α}
    (hl : select dflt rd as id = .ok l) : l.length = as.length := by
  unfold select at hl
  split at hl
  · exact (collect_ok_iff.1 hl).1
  · split at hl
    · cases hf : rd id with
      | error e => simp [hf] at hl
      | ok s => simp only [hf, Except.ok.injEq] at hl; simp [← hl]
    · simp at hl

theorem readFile_ok_iff {hdr : Header} {l : List (Option Series)} :
    readFile o t p id f u now = .ok (hdr, l) ↔
      ∃ b h, t.get p = some b ∧ openBytes o b = .ok h ∧ hdr = h.hdr ∧ fetchList h id f u now = .ok l := by
  unfold readFile
  constructor
  · intro h
    split at h
    · cases h
    · split at h
      · cases h
      · split at h
        · cases h
        · cases h; exact ⟨_, _, ‹_›, ‹_›, rfl, ‹_›⟩
  · rintro ⟨b, hh, hg, ho, rfl, hf⟩
    simp only [hg, ho, hf]

theorem readFile_missing (hm : t.get p = none) :
    readFile o t p id f u now = .error (.err .notExist) := by
  simp [readFile, hm]

theorem view_open {b : Bytes} (hget : t.get p = some b) (hopen : openBytes o b = .ok h) (w : Window) :
    view o t p w =
      match fetchList h w.archiveID w.from_ w.until' w.now with
      | .error e => (.ofFault e, none, [])
      | .ok l => (.ok, some h.hdr, recsOf (l.map seriesPoints)) := by
  simp only [view, readFile, hget, hopen]
  cases fetchList h w.archiveID w.from_ w.until' w.now <;> rfl

theorem viewRaw_open {b : Bytes} (hget : t.get p = some b) (hopen : openBytes o b = .ok h) (w : Window) (sort : Bool) :
    viewRaw o t p w sort =
      match select [] h.rawPoints h.archs w.archiveID with
      | .error e => (.ofFault e, none, [])
      | .ok pl => C12.rawOut w sort h.hdr pl := by
  simp only [viewRaw, hget, hopen, rawAll_eq, select]
  by_cases h1 : w.archiveID = -1
  · rw [if_pos h1, if_pos h1]
    cases collect (fun i _ => h.rawPoints (i : Int)) 0 h.archs <;> rfl
  · rw [if_neg h1, if_neg h1]
    by_cases h2 : 0 ≤ w.archiveID ∧ w.archiveID < h.archs.length
    · rw [if_pos h2, if_pos h2]
      cases h.rawPoints w.archiveID <;> rfl
    · rw [if_neg h2, if_neg h2]

theorem sumFiles_of_readAll {files : List String} {h0 : Header} {l0 : List (Option Series)}
    {rest : List (Header × List (Option Series))} (hr : sumFiles.readAll o t w files = .ok ((h0, l0) :: rest)) :
    sumFiles o t files w =
      if !(rest.all fun r => layoutsEqual h0.archives r.1.archives) then .error (.err .mismatch)
      else if !(rest.all fun r => rangesEqual l0 r.2) then .error (.err .unalike)
      else .ok (h0, sumSeries o h0.archives.length (l0 :: rest.map (·.2))) := by
  cases files with
  | nil => simp [sumFiles.readAll] at hr
  | cons f fs => simp only [sumFiles, List.isEmpty_cons, Bool.false_eq_true, if_false, hr, List.map_cons]

theorem layoutsEqual_refl (a : List Arch) : layoutsEqual a a = true := by
  unfold layoutsEqual
  simp only [beq_self_eq_true, Bool.true_and]
  induction a with
  | nil => rfl
  | cons x xs ih => simp [List.zip_cons_cons, ih]

theorem diffPoints_none (o : FOps) (excl : Bool) : diffPoints o excl none none = ([], []) := by
  simp [diffPoints, sValues, diffLoop]

theorem diffLists_getD (hlen : ls.length = ld.length) (k : Nat) :
    (diffLists o excl ls ld).1.getD k [] = (diffPoints o excl (ls.getD k none) (ld.getD k none)).1 := by
  unfold diffLists
  rw [if_neg (by omega)]
  simp only [List.getD_eq_getElem?_getD, List.map_zip_eq_zipWith, List.getElem?_zipWith]
  by_cases hk : k < ls.length
  · rw [List.getElem?_eq_getElem hk, List.getElem?_eq_getElem (hlen ▸ hk)]
    rfl
  · rw [List.getElem?_eq_none (by omega), List.getElem?_eq_none (by omega)]
    exact (congrArg Prod.fst (diffPoints_none o excl)).symm

/-- a source reader that does not look at `dst` -/
def Blind (dst : String) (rd : Tree → R (Header × List (Option Series))) : Prop :=
  ∀ t1 t2 : Tree, (∀ p, p ≠ dst → t1.get p = t2.get p) → rd t1 = rd t2

theorem readFile_blind {src : String} (hne : src ≠ dst) : Blind dst fun t => readFile o t src id f u now := by
  intro t1 t2 h
  simp only [readFile, h src hne]

theorem sumFiles_blind {files : List String} (hne : dst ∉ files) :
    Blind dst fun t => sumFiles o t files w := by
  intro t1 t2 h
  have : sumFiles.readAll o t1 w files = sumFiles.readAll o t2 w files := by
    induction files with
    | nil => rfl
    | cons f fs ih =>
      have e1 : readFile o t1 f w.archiveID w.from_ w.until' w.now = readFile o t2 f w.archiveID w.from_ w.until' w.now :=
        readFile_blind (fun e => hne (by simp [e])) t1 t2 h
      simp only [sumFiles.readAll, e1, ih (fun hm => hne (by simp [hm]))]
  simp only [sumFiles, this]

theorem get_set_ne {q : String} {b : Bytes} (h : q ≠ p) : (t.set p b).get q = t.get q := by
  simp [Tree.set, Tree.get, h]

theorem get_set_same {b : Bytes} : (t.set p b).get p = some b := by
  simp [Tree.set, Tree.get]

theorem openOrCreate_ok (h : openOrCreate o t dst c = .ok (t', hd)) :
    (∃ b, t.get dst = some b ∧ openBytes o b = .ok hd ∧ t' = t) ∨
    (t.get dst = none ∧ t' = t.set dst hd.view ∧ ∃ disk, createHandle o c.agg c.xff c.lay = .ok (disk, hd)) := by
  unfold openOrCreate at h
  split at h
  · cases h
  · split at h
    · split at h
      · cases h
      · cases h; exact Or.inl ⟨_, ‹_›, ‹_›, rfl⟩
    · split at h
      · cases h
      · cases h; exact Or.inr ⟨‹_›, rfl, _, ‹_›⟩

theorem openOrCreate_existing {b : Bytes} (hnew : ∃ x, newHeader o c.agg c.xff c.lay = .ok x) (hb : t.get dst = some b)
    (ho : openBytes o b = .ok hd) : openOrCreate o t dst c = .ok (t, hd) := by
  obtain ⟨x, hx⟩ := hnew
  simp only [openOrCreate, hx, hb, ho]

/-- the points one step of ⟦copyDifferentPoints⟧ writes to archive `i`: the batch computed
    beforehand for the finest archive (and for an archive without source series), the
    difference against a fresh fetch for a coarser one -/
def copyPts (o : FOps) (ls : List (Option Series)) (exclNaN : Bool) (w : Window) (h : Handle) (i : Nat)
    (ps : List Point) : R (List Point) :=
  match ls.getD i none with
  | none => .ok ps
  | some s =>
    if i = 0 then .ok ps else
    match h.fetchFromArchive (i : Int) w.from_ w.until' w.now with
    | .error e => .error e
    | .ok d => .ok (diffPoints o exclNaN (some s) d).1

variable {i : Nat} {ps : List Point} {rest : List (List Point)}

theorem copyArchives_cons :
    copyArchives o ls excl w h i (ps :: rest) =
      match copyPts o ls excl w h i ps with
      | .error e => .error e
      | .ok pts =>
        match h.updateMany o pts (i : Int) w.now with
        | .error e => .error e
        | .ok h' =>
          match copyArchives o ls excl w h' (i + 1) rest with
          | .error e => .error e
          | .ok (h'', written) => .ok (h'', pts :: written) := by
  simp only [copyArchives, copyPts]
  rfl

theorem copyArchives_cons_ok_iff {h'' : Handle} {written : List (List Point)} :
    copyArchives o ls excl w h i (ps :: rest) = .ok (h'', written) ↔
      ∃ pts h' wr, copyPts o ls excl w h i ps = .ok pts ∧ h.updateMany o pts (i : Int) w.now = .ok h' ∧
        copyArchives o ls excl w h' (i + 1) rest = .ok (h'', wr) ∧ written = pts :: wr := by
  rw [copyArchives_cons]
  constructor
  · intro he
    split at he
    · cases he
    · split at he
      · cases he
      · split at he
        · cases he
        · cases he; exact ⟨_, _, _, ‹_›, ‹_›, ‹_›, rfl⟩
  · rintro ⟨pts, h', wr, hp, hu, hr, rfl⟩
    simp only [hp, hu, hr]

/-- the four ways ⟦copyCore⟧ ends: a failed fetch or write (tree untouched), a refusal (tree
    untouched), nothing to copy (tree untouched), or the batches written and the handle
    published -/
theorem copyCore_ends (o : FOps) (t : Tree) (dst : String) (hd : Handle) (sa : List Arch)
    (ls : List (Option Series)) (w : Window) (excl : Bool) :
    (∃ e, (fetchList hd w.archiveID w.from_ w.until' w.now = .error e ∨
          ∃ bs, copyArchives o ls excl w hd 0 bs = .error e) ∧
        copyCore o t dst hd sa ls w excl = (t, .ofFault e, [])) ∨
    (∃ k, copyCore o t dst hd sa ls w excl = (t, .err k, [])) ∨
    (∃ ld, fetchList hd w.archiveID w.from_ w.until' w.now = .ok ld ∧
        layoutsEqual sa hd.archs = true ∧ rangesEqual ls ld = true ∧
        (allEmpty (diffLists o excl ls ld).1 && allEmpty (diffLists o excl ls ld).2) = true ∧
        copyCore o t dst hd sa ls w excl = (t, .ok, [])) ∨
    ∃ ld hd' written, fetchList hd w.archiveID w.from_ w.until' w.now = .ok ld ∧
      layoutsEqual sa hd.archs = true ∧ rangesEqual ls ld = true ∧
      copyArchives o ls excl w hd 0
        ((List.range hd.archs.length).map fun i => (diffLists o excl ls ld).1.getD i []) = .ok (hd', written) ∧
      copyCore o t dst hd sa ls w excl = (t.set dst hd'.view, .ok, recsOf written) := by
  unfold copyCore
  cases hf : fetchList hd w.archiveID w.from_ w.until' w.now with
  | error e => exact Or.inl ⟨e, Or.inl rfl, rfl⟩
  | ok ld =>
    simp only
    cases hlay : layoutsEqual sa hd.archs with
    | false => exact Or.inr (Or.inl ⟨_, rfl⟩)
    | true =>
      cases hrng : rangesEqual ls ld with
      | false => exact Or.inr (Or.inl ⟨_, rfl⟩)
      | true =>
        simp only [Bool.not_true, Bool.false_eq_true, if_false]
        cases hem : (allEmpty (diffLists o excl ls ld).1 && allEmpty (diffLists o excl ls ld).2) with
        | true => exact Or.inr (Or.inr (Or.inl ⟨ld, rfl, trivial, hrng, hem, rfl⟩))
        | false =>
          simp only [Bool.false_eq_true, if_false]
          cases hca : copyArchives o ls excl w hd 0
              ((List.range hd.archs.length).map fun i => (diffLists o excl ls ld).1.getD i []) with
          | error e => exact Or.inl ⟨e, Or.inr ⟨_, hca⟩, rfl⟩
          | ok r => exact Or.inr (Or.inr (Or.inr ⟨ld, r.1, r.2, rfl, trivial, hrng, hca, rfl⟩))

theorem copyCore_tree_or (o : FOps) (t : Tree) (dst : String) (hd : Handle) (sa : List Arch)
    (ls : List (Option Series)) (w : Window) (excl : Bool) :
    (copyCore o t dst hd sa ls w excl).1 = t ∨
      ∃ (hd' : Handle) (wr : List (List Point)), copyCore o t dst hd sa ls w excl = (t.set dst hd'.view, .ok, recsOf wr) := by
  rcases copyCore_ends o t dst hd sa ls w excl with ⟨_, _, h⟩ | ⟨_, h⟩ | ⟨_, _, _, _, _, h⟩ | ⟨_, hd', wr, _, _, _, _, h⟩
  · exact Or.inl (by rw [h])
  · exact Or.inl (by rw [h])
  · exact Or.inl (by rw [h])
  · exact Or.inr ⟨hd', wr, h⟩

/-- ⟦copyOneFile⟧ / ⟦sumCopyItem⟧: open or create the destination, read the source with `rd`
    on the tree that leaves, hand over to `copyCore` -/
def copyWith (o : FOps) (rd : Tree → R (Header × List (Option Series))) (excl : Bool) (t : Tree) (dst : String)
    (c : CopyOpts) (w : Window) : Tree × Outcome × List Rec :=
  match openOrCreate o t dst c with
  | .error e => (t, .ofFault e, [])
  | .ok (t, hd) =>
    match rd t with
    | .error e => (t, .ofFault e, [])
    | .ok (hs, ls) => copyCore o t dst hd hs.archives ls w excl

theorem copyOne_with (o : FOps) (t : Tree) (src dst : String) (c : CopyOpts) (w : Window) :
    copyOne o t src dst c w =
      copyWith o (fun t => readFile o t src w.archiveID w.from_ w.until' w.now) (!c.copyNaN) t dst c w := rfl

theorem sumCopy_with (o : FOps) (t : Tree) (files : List String) (dst : String) (c : CopyOpts) (w : Window) :
    sumCopy o t files dst c w = copyWith o (fun t => sumFiles o t files w) false t dst c w := rfl

theorem copyWith_ends (o : FOps) (rd : Tree → R (Header × List (Option Series))) (excl : Bool) (t : Tree)
    (dst : String) (c : CopyOpts) (w : Window) :
    (∃ e, openOrCreate o t dst c = .error e ∧ copyWith o rd excl t dst c w = (t, .ofFault e, [])) ∨
    ∃ t1 hd, openOrCreate o t dst c = .ok (t1, hd) ∧
      ((∃ e, rd t1 = .error e ∧ copyWith o rd excl t dst c w = (t1, .ofFault e, [])) ∨
       ∃ hs ls, rd t1 = .ok (hs, ls) ∧ copyWith o rd excl t dst c w = copyCore o t1 dst hd hs.archives ls w excl) := by
  unfold copyWith
  cases openOrCreate o t dst c with
  | error e => exact Or.inl ⟨e, rfl, rfl⟩
  | ok r =>
    refine Or.inr ⟨r.1, r.2, rfl, ?_⟩
    cases hr : rd r.1 with
    | error e => exact Or.inl ⟨e, rfl, by simp only [hr]⟩
    | ok r2 => exact Or.inr ⟨r2.1, r2.2, rfl, by simp only [hr]⟩

/-- ⟦diffOneFile⟧ / ⟦sumDiffItem⟧ as a function of the two reads; sum-diff does not compare
    the time ranges (`chk = false`) -/
def diffWith (o : FOps) (chk : Bool) (rs rd : R (Header × List (Option Series))) : Outcome × List Rec :=
  match rs, rd with
  | .error (.err .notExist), _ => (.diffFound, [])
  | _, .error (.err .notExist) => (.diffFound, [])
  | .error e, _ => (.ofFault e, [])
  | _, .error e => (.ofFault e, [])
  | .ok (hs, ls), .ok (hd, ld) =>
    if !layoutsEqual hs.archives hd.archives then (.err .mismatch, [])
    else if chk && !rangesEqual ls ld then (.err .unalike, [])
    else
      let (sp, dp) := diffLists o false ls ld
      if allEmpty sp && allEmpty dp then (.ok, [])
      else (.diffFound, diffRecs o hs.archives.length sp dp)

theorem diffOne_with (o : FOps) (t : Tree) (src dst : String) (w : Window) :
    diffOne o t src dst w = diffWith o true (readFile o t src w.archiveID w.from_ w.until' w.now)
      (readFile o t dst w.archiveID w.from_ w.until' w.now) := rfl

theorem sumDiff_with (o : FOps) (t : Tree) (files : List String) (dst : String) (w : Window) :
    sumDiff o t files dst w = diffWith o false (sumFiles o t files w)
      (readFile o t dst w.archiveID w.from_ w.until' w.now) := rfl

variable {rs rd : R (Header × List (Option Series))}

theorem diffWith_panic (h : (diffWith o chk rs rd).1 = .panic) :
    (∃ s, rs = .error (.panic s)) ∨ ∃ s, rd = .error (.panic s) := by
  unfold diffWith at h
  split at h
  · simp at h
  · simp at h
  · obtain ⟨s, rfl⟩ := Outcome.ofFault_eq_panic.1 h; exact Or.inl ⟨s, rfl⟩
  · obtain ⟨s, rfl⟩ := Outcome.ofFault_eq_panic.1 h; exact Or.inr ⟨s, rfl⟩
  · split at h
    · simp at h
    · split at h
      · simp at h
      · dsimp only at h
        split at h <;> simp at h

theorem diffWith_missing (h : rs = .error (.err .notExist) ∨ rd = .error (.err .notExist)) :
    (diffWith o chk rs rd).1 = .diffFound := by
  rcases h with rfl | rfl
  · rfl
  · cases rs with
    | ok r => rfl
    | error e =>
      cases e with
      | err k => cases k <;> rfl
      | _ => rfl

theorem diffWith_clean {hs hd : Header} (hlay : layoutsEqual hs.archives hd.archives = true)
    (hrng : chk = true → rangesEqual ls ld = true)
    (hdl : (allEmpty (diffLists o false ls ld).1 && allEmpty (diffLists o false ls ld).2) = true) :
    diffWith o chk (.ok (hs, ls)) (.ok (hd, ld)) = (.ok, []) := by
  have : (chk && !rangesEqual ls ld) = false := by
    cases chk with
    | false => rfl
    | true => simp [hrng rfl]
  simp only [diffWith, hlay, this, Bool.not_true, Bool.false_eq_true, if_false, hdl, if_true]

/-- the verdict of a comparing run, from the outcomes of its files in order: every file is
    compared, a difference is remembered, anything else stops the run -/
def verdict : List Outcome → Bool → Outcome
  | [], found => if found then .diffFound else .ok
  | .ok :: r, found => verdict r found
  | .diffFound :: r, _ => verdict r true
  | oc :: _, _ => oc

theorem diffMany_verdict (o : FOps) (t : Tree) (w : Window) : ∀ (ps : List (String × String)) (found : Bool),
    (diffMany o t w ps found).1 = verdict (ps.map fun p => (diffOne o t p.1 p.2 w).1) found
  | [], _ => rfl
  | p :: ps, found => by
    simp only [diffMany, List.map_cons]
    rcases diffOne o t p.1 p.2 w with ⟨oc, recs⟩
    cases oc <;> simp only [verdict, diffMany_verdict o t w ps]

theorem sumDiffMany_verdict (o : FOps) (t : Tree) (w : Window) : ∀ (ps : List (List String × String)) (found : Bool),
    (sumDiffMany o t w ps found).1 = verdict (ps.map fun p => (sumDiff o t p.1 p.2 w).1) found
  | [], _ => rfl
  | p :: ps, found => by
    simp only [sumDiffMany, List.map_cons]
    rcases sumDiff o t p.1 p.2 w with ⟨oc, recs⟩
    cases oc <;> simp only [verdict, sumDiffMany_verdict o t w ps]

theorem verdict_ne_panic : ∀ (l : List Outcome) (found : Bool), (∀ oc ∈ l, oc ≠ .panic) → verdict l found ≠ .panic
  | [], found, _ => by cases found <;> simp [verdict]
  | .ok :: l, found, h => verdict_ne_panic l found (List.forall_mem_cons.1 h).2
  | .diffFound :: l, _, h => verdict_ne_panic l true (List.forall_mem_cons.1 h).2
  | .err _ :: _, _, _ => by simp [verdict]
  | .panic :: _, _, h => absurd rfl (List.forall_mem_cons.1 h).1

theorem verdict_map_any (g : α → Outcome) (l : List α) (hall : ∀ p ∈ l, g p = .ok ∨ g p = .diffFound)
    (found : Bool) :
    verdict (l.map g) found = if found ∨ ∃ p ∈ l, g p = .diffFound then .diffFound else .ok := by
  induction l generalizing found with
  | nil => simp [verdict]
  | cons p l ih =>
    obtain ⟨h0, hl⟩ := List.forall_mem_cons.1 hall
    simp only [List.map_cons, List.mem_cons, exists_eq_or_imp]
    rcases h0 with e | e
    · simp only [e, verdict, ih hl, reduceCtorEq, false_or]
    · simp only [e, verdict, ih hl, true_or, or_true, if_true]

theorem verdict_err (k : ErrKind) (post : List Outcome) : ∀ (pre : List Outcome) (found : Bool),
    (∀ oc ∈ pre, oc = .ok ∨ oc = .diffFound) → verdict (pre ++ .err k :: post) found = .err k
  | [], _, _ => rfl
  | oc :: l, _, h => by
    obtain ⟨h0, hl⟩ := List.forall_mem_cons.1 h
    rcases h0 with rfl | rfl <;> exact verdict_err k post l _ hl

/-- ⟦CopyCommand.execute⟧ / sum-copy over a list: items in order on the tree the previous one
    left, stopping at the first that does not end `ok` -/
def runCopies (step : Tree → α → Tree × Outcome × List Rec) : Tree → List α → Tree × Outcome × List (List Rec)
  | t, [] => (t, .ok, [])
  | t, a :: rest =>
    match step t a with
    | (t', .ok, recs) =>
      let (t'', oc, rs) := runCopies step t' rest
      (t'', oc, recs :: rs)
    | (t', oc, recs) => (t', oc, [recs])

theorem copyMany_run (o : FOps) (c : CopyOpts) (w : Window) : ∀ (ps : List (String × String)) (t : Tree),
    copyMany o c w t ps = runCopies (fun t p => copyOne o t p.1 p.2 c w) t ps
  | [], _ => rfl
  | p :: ps, t => by
    simp only [copyMany, runCopies, copyMany_run o c w ps]
    rfl

theorem sumCopyMany_run (o : FOps) (c : CopyOpts) (w : Window) : ∀ (ps : List (List String × String)) (t : Tree),
    sumCopyMany o c w t ps = runCopies (fun t p => sumCopy o t p.1 p.2 c w) t ps
  | [], _ => rfl
  | p :: ps, t => by
    simp only [sumCopyMany, runCopies, sumCopyMany_run o c w ps]
    rfl

theorem runCopies_ne_panic (step : Tree → α → Tree × Outcome × List Rec) (P : Tree → Prop)
    (hstep : ∀ t a, P t → (step t a).2.1 ≠ .panic ∧ P (step t a).1) :
    ∀ (l : List α) (t : Tree), P t → (runCopies step t l).2.1 ≠ .panic
  | [], _, _ => by simp [runCopies]
  | a :: l, t, ht => by
    obtain ⟨h1, h2⟩ := hstep t a ht
    simp only [runCopies]
    rcases hs : step t a with ⟨t', oc, recs⟩
    rw [hs] at h1 h2
    cases oc with
    | ok => exact runCopies_ne_panic step P hstep l t' h2
    | panic => exact absurd rfl h1
    | _ => simp

end Wsp.Cmd
