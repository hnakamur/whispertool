/-
  C05  Sync persistence: synced state survives reopen; unsynced changes stay off disk.

  `World` keeps the disk apart from the handle's view (filebuffer is modelled, not
  verified: a flush writes whole dirty pages whose buffer equals the view).  The disk
  changes only at `sync` (and at creation, which truncates the file to its final length
  of zeros); dropping the handle after any prefix leaves the last synced bytes; and every
  write of the library lands inside an archive region of a valid header, so the length
  and the header bytes of the view — hence of every later disk image — are those of
  creation.  That `Sync` is the only caller of `Flush`/`file.Sync` and that nothing
  writes the file directly are `FactsTie.disk_writers`, regenerated from the source.
-/
import Wsp.Proofs.Layout
import Wsp.Proofs.OpenLemmas
import Wsp.Props.FactsTie
namespace Wsp.C05
open Wsp.Handle Wsp.C14

/-- operations of a handle other than `sync`: they never touch the disk -/
def HandleOp : LibOp → Prop
  | .upd .. => True
  | .updMany .. => True
  | .drop => True
  | .open_ => True
  | _ => False

theorem disk_changes_only_at_sync (o : FOps) (w : World) (op : LibOp) (hop : HandleOp op) :
    (w.step o op).1.disk = w.disk := by
  cases op with
  | create | createOver | sync | setDisk | rmDisk => cases hop
  | drop => rfl
  | open_ | upd | updMany =>
    simp only [World.step]
    split
    · rfl
    · split <;> rfl

/-- after `Sync` the disk holds exactly the handle's state -/
theorem sync_publishes (o : FOps) (w : World) (h : Handle) (hh : w.h = some h) :
    (w.step o .sync).1.disk = some h.view ∧ (w.step o .sync).1.h = some h := by
  simp [World.step, hh]

/-- any number of writes, drops and reopens between two Syncs leave the disk as it was:
    a process that dies at any point leaves precisely the last synced state -/
theorem abandon_leaves_last_synced (o : FOps) (w : World) (ops : List LibOp)
    (hops : ∀ op ∈ ops, HandleOp op) : (w.run o ops).disk = w.disk := by
  induction ops generalizing w with
  | nil => rfl
  | cons op ops ih =>
    exact (ih (w.step o op).1 fun x hx => hops x (List.mem_cons_of_mem _ hx)).trans
      (disk_changes_only_at_sync o w op (hops op List.mem_cons_self))

/-- the disk after a history is the view at its last `sync` -/
theorem disk_is_last_synced_view (o : FOps) (w : World) (pre post : List LibOp)
    (hpost : ∀ op ∈ post, HandleOp op) (h : Handle) (hh : (w.run o pre).h = some h) :
    (w.run o (pre ++ [.sync] ++ post)).disk = some h.view := by
  have e : w.run o (pre ++ [.sync] ++ post) = (((w.run o pre).step o .sync).1).run o post := by
    simp [World.run, List.foldl_append]
  rw [e, abandon_leaves_last_synced o _ post hpost]
  exact (sync_publishes o _ h hh).1

structure ValidHandle (h : Handle) : Prop where
  valid : validateArchs h.hdr.archives = true
  range : ∀ a ∈ h.hdr.archives, ArchWF a

/-- **length and header never change**: whatever a single or batch update does (direct
    writes and propagation at every level), the header, the length of the file image and
    its first `16 + 12·k` bytes are untouched. -/
theorem length_and_header_fixed (o : FOps) (h h' : Handle) (vh : ValidHandle h) :
    (∀ k t v now, h.updatePoint o k t v now = .ok h' → Frame (16 + 12 * h.hdr.archives.length) h h') ∧
    (∀ ps k now, h.updateMany o ps k now = .ok h' → Frame (16 + 12 * h.hdr.archives.length) h h') := by
  have pl := placed_of_valid h vh.valid vh.range
  exact ⟨updatePoint_frame o h h' pl, updateMany_frame o h h' pl⟩

theorem valid_preserved (h h' : Handle) (vh : ValidHandle h)
    (hf : Frame (16 + 12 * h.hdr.archives.length) h h') : ValidHandle h' :=
  ⟨hf.1 ▸ vh.valid, hf.1 ▸ vh.range⟩

/-- creation: the file has its final length at once (zeros on disk), the header is in
    the buffer only; the first Sync publishes it -/
theorem create_length (o : FOps) (agg : Nat) (xff : UInt32) (lay : List (Int × Nat))
    (disk : Bytes) (h : Handle) (hc : createHandle o agg xff lay = .ok (disk, h)) :
    disk.length = h.hdr.expectedFileSize ∧ h.view.length = disk.length ∧
    disk = List.replicate h.hdr.expectedFileSize 0 := by
  obtain ⟨-, hl, rfl, hv⟩ := createHandle_ok_iff.1 hc
  refine ⟨List.length_replicate, ?_, rfl⟩
  rw [hv, List.length_append, List.length_replicate, List.length_replicate]; omega

/-- the regenerated call-site facts: only `Sync` flushes the buffer and syncs the file,
    nothing writes the file except through the buffer -/
theorem only_sync_reaches_the_disk :
    Facts.flushCallers = ["Sync"] ∧ Facts.fileSyncCallers = ["Sync"] ∧ Facts.directFileWriteCallers = [] :=
  ⟨FactsTie.disk_writers.1, FactsTie.disk_writers.2.1, FactsTie.disk_writers.2.2.1⟩

example : HandleOp (.upd (-1) 1000 0 1000) ∧ ¬ HandleOp .sync := by simp [HandleOp]

end Wsp.C05
