/-
  C05, the CLI clause: a `copy` or `sum-copy` that does not report success leaves the tree as
  it was when the destination already existed — nothing reaches the disk before the final
  `Sync`, and the final `Sync` is only reached on success.
-/
import Wsp.Props.CmdBasics
namespace Wsp.C05
open Wsp.Cmd

/-- the common core publishes only on success -/
theorem copyCore_failure_keeps_tree (o : FOps) (t : Tree) (dst : String) (hd : Handle) (sa : List Arch)
    (ls : List (Option Series)) (w : Window) (excl : Bool)
    (hfail : (copyCore o t dst hd sa ls w excl).2.1 ≠ .ok) : (copyCore o t dst hd sa ls w excl).1 = t := by
  rcases copyCore_tree_or o t dst hd sa ls w excl with h | ⟨_, _, h⟩
  · exact h
  · rw [h] at hfail; exact absurd rfl hfail

theorem copyWith_failure_keeps_existing {o : FOps} {rd : Tree → R (Header × List (Option Series))} {excl : Bool}
    {t : Tree} {dst : String} {c : CopyOpts} {w : Window} {b : Bytes}
    (hb : t.get dst = some b) (hfail : (copyWith o rd excl t dst c w).2.1 ≠ .ok) :
    (copyWith o rd excl t dst c w).1 = t := by
  rcases copyWith_ends o rd excl t dst c w with ⟨_, _, h⟩ | ⟨t1, hd, hoc, hrest⟩
  · rw [h]
  · rcases openOrCreate_ok hoc with ⟨_, _, _, rfl⟩ | ⟨hn, _⟩
    · rcases hrest with ⟨_, _, h⟩ | ⟨_, _, _, h⟩
      · rw [h]
      · rw [h] at hfail ⊢; exact copyCore_failure_keeps_tree o t1 dst hd _ _ w _ hfail
    · rw [hb] at hn; cases hn

/-- **a failing `copy` leaves an existing destination (and everything else) untouched** -/
theorem copy_failure_keeps_existing (o : FOps) (t : Tree) (src dst : String) (c : CopyOpts) (w : Window) (b : Bytes)
    (hb : t.get dst = some b) (hfail : (copyOne o t src dst c w).2.1 ≠ .ok) :
    (copyOne o t src dst c w).1 = t :=
  copyWith_failure_keeps_existing hb hfail

theorem sumCopy_failure_keeps_existing (o : FOps) (t : Tree) (files : List String) (dst : String) (c : CopyOpts)
    (w : Window) (b : Bytes) (hb : t.get dst = some b) (hfail : (sumCopy o t files dst c w).2.1 ≠ .ok) :
    (sumCopy o t files dst c w).1 = t :=
  copyWith_failure_keeps_existing hb hfail

end Wsp.C05
