/-
  C04  Fetch window contract: shape depends only on layout, window and clock.

  `fetchPlan` (the first half of FetchFromArchive) takes only the archive list, the
  archive id, the window and the clock; `fetchExec` adds the values.  So the shape is a
  function of layout, window and clock by construction, and the theorems below say which
  function: when it fails, when it is `none`, and the closed form of the bounds, the step
  and the length inside the zone of DESIGN §3.2 (clock past the retention, times below
  2^31).  `exec_shape` shows the executed fetch has exactly the planned shape whatever the
  archive holds — in particular whether or not it was ever written (base interval 0).
-/
import Wsp.Proofs.Zone
import Wsp.Proofs.CodecLemmas
namespace Wsp.C04
open Wsp.Handle

/-- "best" is the first archive whose retention reaches back to `from`, else the last one -/
theorem best_archive (diff : Int) (as : List Arch) (hne : as ≠ []) :
    let j := findBestFrom diff 0 as
    (∀ i a, i < j → as[i]? = some a → a.maxRetention < diff) ∧
    ((∃ a, as[j]? = some a ∧ a.maxRetention ≥ diff) ∨ j = as.length - 1) := by
  intro j
  have hj : j = min (as.findIdx fun a => a.maxRetention ≥ diff) (as.length - 1) :=
    (findBestFrom_eq diff 0 hne).trans (Nat.zero_add _)
  constructor
  · intro i a hi ha
    obtain ⟨hl, rfl⟩ := List.getElem?_eq_some_iff.1 ha
    simpa using List.not_of_lt_findIdx (Nat.lt_of_lt_of_le (Nat.lt_of_lt_of_eq hi hj) (Nat.min_le_left _ _))
  · by_cases h : (as.findIdx fun a => decide (a.maxRetention ≥ diff)) < as.length
    · have e : j = as.findIdx fun a => decide (a.maxRetention ≥ diff) :=
        hj.trans (Nat.min_eq_left (Nat.le_sub_one_of_lt h))
      exact Or.inl ⟨_, by rw [e]; exact List.getElem?_eq_getElem h, by simpa using List.findIdx_getElem (w := h)⟩
    · exact Or.inr (hj.trans (Nat.min_eq_right (Nat.le_trans (Nat.sub_le _ _) (Nat.le_of_not_lt h))))

def BadId (n : Nat) (k : Int) : Prop := (k ≠ -1 ∧ k < 0) ∨ (n : Int) - 1 < k

/-- the selected archive index (only meaningful when the id is acceptable) -/
def selected (archs : List Arch) (k : Int) (f now : Nat) : Nat :=
  if k = -1 then findBestFrom (tsSub now f) 0 archs else k.toNat

theorem selected_lt {archs : List Arch} (hne : archs ≠ []) {k : Int} (f now : Nat) (hk : ¬ BadId archs.length k) :
    selected archs k f now < archs.length := by
  unfold selected BadId at *
  split
  · have := findBestFrom_lt (tsSub now f) 0 hne
    omega
  · omega

instance (n : Nat) (k : Int) : Decidable (BadId n k) := by unfold BadId; exact inferInstance

/-- the window ⟦fetchPlan⟧ plans on archive `a`: clamped to retention and clock, aligned, and
    widened by one step when it would be empty -/
def planFrom (a : Arch) (f now : Nat) : Nat :=
  a.interval (if f < tsAdd now (- a.maxRetention) then tsAdd now (- a.maxRetention) else f)

def planUntil (a : Arch) (f u now : Nat) : Nat :=
  if planFrom a f now = a.interval (if u > now then now else u)
  then tsAdd (a.interval (if u > now then now else u)) a.step else a.interval (if u > now then now else u)

theorem fetchPlan_eq (archs : List Arch) (k : Int) (f u now : Nat) :
    fetchPlan archs k f u now =
      if f > u then .error (.err .rangeError) else
      if BadId archs.length k then .error (.err .outOfRange) else
      match archs[selected archs k f now]? with
      | none => .error (.panic "index out of range")
      | some a =>
        if f > now ∨ u < tsAdd now (- a.maxRetention) then .ok none
        else .ok (some ⟨selected archs k f now, a, planFrom a f now, planUntil a f u now⟩) := by
  unfold fetchPlan selected planUntil planFrom
  by_cases h1 : f > u
  · rw [if_pos h1, if_pos h1]
  rw [if_neg h1, if_neg h1]
  by_cases h2 : BadId archs.length k
  · rw [if_pos h2, if_pos (show (k ≠ -1 ∧ k < 0) ∨ (archs.length : Int) - 1 < k from h2)]
  rw [if_neg h2, if_neg (show ¬ ((k ≠ -1 ∧ k < 0) ∨ (archs.length : Int) - 1 < k) from h2)]
  dsimp only
  cases archs[if k = -1 then findBestFrom (tsSub now f) 0 archs else k.toNat]? with
  | none => rfl
  | some a =>
    by_cases h3 : f > now
    · simp [h3]
    · by_cases h4 : u < tsAdd now (- a.maxRetention) <;> simp [h3, h4]

theorem fetchPlan_some {archs : List Arch} {k : Int} {f u now : Nat} {p : FetchPlan}
    (hp : fetchPlan archs k f u now = .ok (some p)) :
    archs[selected archs k f now]? = some p.a ∧ p.id = selected archs k f now ∧
    f ≤ u ∧ f ≤ now ∧ tsAdd now (- p.a.maxRetention) ≤ u ∧
    p.fromI = planFrom p.a f now ∧ p.untilI = planUntil p.a f u now := by
  rw [fetchPlan_eq] at hp
  by_cases h1 : f > u
  · rw [if_pos h1] at hp
    cases hp
  by_cases h2 : BadId archs.length k
  · rw [if_neg h1, if_pos h2] at hp
    cases hp
  rw [if_neg h1, if_neg h2] at hp
  split at hp
  · cases hp
  split at hp
  · cases hp
  · rename_i a ha h3
    cases hp
    dsimp only
    exact ⟨ha, rfl, Nat.le_of_not_lt h1, Nat.le_of_not_lt fun h => h3 (Or.inl h),
      Nat.le_of_not_lt fun h => h3 (Or.inr h), rfl, rfl⟩

/-- `fetchPlan` (the first half of a fetch) fails iff `from > until` or the archive id is out of
    range; the second half, `fetchExec`, can still fail on its reads -/
theorem fail_iff (archs : List Arch) (hne : archs ≠ []) (k : Int) (f u now : Nat) :
    (∃ e, fetchPlan archs k f u now = .error e) ↔ (f > u ∨ BadId archs.length k) := by
  rw [fetchPlan_eq]
  by_cases h1 : f > u
  · simp [h1]
  by_cases h2 : BadId archs.length k
  · simp [h1, h2]
  simp only [h1, h2, if_false, List.getElem?_eq_getElem (selected_lt hne f now h2), or_self, iff_false]
  rintro ⟨e, he⟩
  split at he <;> cases he

/-- the errors are classed as the property says -/
theorem fail_class (archs : List Arch) (k : Int) (f u now : Nat) :
    (f > u → fetchPlan archs k f u now = .error (.err .rangeError)) ∧
    (¬ f > u → BadId archs.length k → fetchPlan archs k f u now = .error (.err .outOfRange)) :=
  ⟨fun h => by rw [fetchPlan_eq, if_pos h], fun h1 h2 => by rw [fetchPlan_eq, if_neg h1, if_pos h2]⟩

/-- `fetchPlan` plans no series iff the window lies wholly in the future or wholly before the
    retention -/
theorem none_iff (archs : List Arch) (k : Int) (f u now : Nat)
    (h1 : ¬ f > u) (h2 : ¬ BadId archs.length k) (a : Arch)
    (ha : archs[selected archs k f now]? = some a) :
    fetchPlan archs k f u now = .ok none ↔ (f > now ∨ u < tsAdd now (- a.maxRetention)) := by
  rw [fetchPlan_eq]
  simp only [h1, h2, if_false, ha]
  split <;> simp [*]

/-! ### outside the clock zone, early side

With the clock before 1970 + the retention of the selected archive the uint32 cut-off
`now - retention` wraps to `2^32 + now - retention` (`C03.tsAdd_early`), which lies after the
clock: the wrap is characterised, not only mirrored by the model. -/

/-- before 1970 + retention `fetchPlan` plans no series for a window ending at or before the clock -/
theorem early_clock_none (archs : List Arch) (k : Int) (f u now : Nat)
    (h1 : ¬ f > u) (h2 : ¬ BadId archs.length k) (a : Arch)
    (ha : archs[selected archs k f now]? = some a)
    (h0 : 0 < a.maxRetention) (hM : a.maxRetention < 4294967296)
    (hclock : (now : Int) < a.maxRetention) (hu : u ≤ now) :
    fetchPlan archs k f u now = .ok none := by
  rw [none_iff archs k f u now h1 h2 a ha]
  -- the wrapped cut-off lies after the clock, hence after `u`
  have := C03.tsAdd_early now a.maxRetention h0 (by omega) hclock
  exact Or.inr (by omega)

/-- before 1970 + retention a series is planned only for a window that starts at or before
    the clock and reaches the wrapped cut-off, which lies after the clock -/
theorem early_clock_some_only_beyond (archs : List Arch) (k : Int) (f u now : Nat)
    (h1 : ¬ f > u) (h2 : ¬ BadId archs.length k) (a : Arch)
    (ha : archs[selected archs k f now]? = some a)
    (h0 : 0 < a.maxRetention) (hM : a.maxRetention < 4294967296)
    (hclock : (now : Int) < a.maxRetention) (p : FetchPlan)
    (hp : fetchPlan archs k f u now = .ok (some p)) :
    f ≤ now ∧ 4294967296 + (now : Int) - a.maxRetention ≤ u ∧ now < u := by
  have hn : ¬ (fetchPlan archs k f u now = .ok none) := by rw [hp]; simp
  rw [none_iff archs k f u now h1 h2 a ha] at hn
  have := C03.tsAdd_early now a.maxRetention h0 (by omega) hclock
  omega

/-- inside the clock zone the cut-off `now − retention` does not wrap -/
theorem cutoff_ideal {a : Arch} (ok : ArchOK a) {now : Nat} (hclock : a.step * (a.n : Int) ≤ now)
    (hnow : now < 4294967296) : (tsAdd now (- a.maxRetention) : Int) = now - a.step * a.n := by
  have := Int.mul_nonneg (Int.le_of_lt ok.1) (Int.natCast_nonneg a.n)
  rw [maxRetention_ideal ok]
  exact tsAdd_ideal now _ (by omega) (by omega)

theorem clamp_cast (f o u now : Nat) :
    ((if f < o then o else f : Nat) : Int) = max (f : Int) o ∧
    ((if u > now then now else u : Nat) : Int) = min (u : Int) now := by
  constructor <;> split
  · exact (Int.max_eq_right (Int.ofNat_le.2 (Nat.le_of_lt ‹_›))).symm
  · exact (Int.max_eq_left (Int.ofNat_le.2 (Nat.le_of_not_lt ‹_›))).symm
  · exact (Int.min_eq_right (Int.ofNat_le.2 (Nat.le_of_lt ‹_›))).symm
  · exact (Int.min_eq_left (Int.ofNat_le.2 (Nat.le_of_not_lt ‹_›))).symm

/-- `t'` is the integer form the caller has of `t` (a `max` or `min` of casts, `clamp_cast`) -/
theorem interval_le_clock {a : Arch} (hs : 0 < a.step) (hsl : a.step < 2147483648) {t now : Nat} {t' : Int}
    (e : (t : Int) = t') (ht : t' ≤ now) (hnow : (now : Int) + a.step < 2147483648) :
    (a.interval t : Int) = t' - t' % a.step + a.step ∧ (tsAdd (a.interval t) a.step : Int) = a.interval t + a.step := by
  subst e
  have hI := interval_ideal t hs hsl (by omega)
  have := alignDown_bounds t hs
  exact ⟨hI, tsAdd_ideal _ _ (Int.add_nonneg (Int.natCast_nonneg _) (Int.le_of_lt hs)) (by omega)⟩

/-- the planned bounds, written with ideal integers -/
theorem shape (archs : List Arch) (k : Int) (f u now : Nat) (p : FetchPlan)
    (hp : fetchPlan archs k f u now = .ok (some p))
    (hs : 0 < p.a.step) (hsl : p.a.step < 2147483648) (hn : 0 < p.a.n)
    (hr : p.a.step * (p.a.n : Int) ≤ 2147483647)
    (hclock : p.a.step * (p.a.n : Int) ≤ now) (hnow : (now : Int) + p.a.step < 2147483648) :
    archs[selected archs k f now]? = some p.a ∧ p.id = selected archs k f now ∧
    f ≤ u ∧ f ≤ now ∧ (now : Int) - p.a.step * p.a.n ≤ u ∧
    (let f' : Int := max (f : Int) ((now : Int) - p.a.step * p.a.n)
     let u' : Int := min (u : Int) (now : Int)
     let fI := f' - f' % p.a.step + p.a.step
     let uI := u' - u' % p.a.step + p.a.step
     (p.fromI : Int) = fI ∧ (p.untilI : Int) = (if fI = uI then uI + p.a.step else uI)) := by
  obtain ⟨ha, hid, hfu, hfn, hou, eF, eU⟩ := fetchPlan_some hp
  rw [eF, eU]
  unfold planUntil planFrom
  have hP := Int.mul_nonneg (Int.le_of_lt hs) (Int.natCast_nonneg p.a.n)
  have hold := cutoff_ideal ⟨hs, hn, hr⟩ hclock (by omega)
  -- both clamped ends are at most `now`, where ⟦interval⟧ is `t - t % S + S` without wrap-around
  obtain ⟨ef', eu'⟩ := clamp_cast f (tsAdd now (- p.a.maxRetention)) u now
  rw [hold] at ef'
  obtain ⟨efI, _⟩ := interval_le_clock hs hsl ef' (Int.max_le.2 ⟨Int.ofNat_le.2 hfn, Int.sub_le_self _ hP⟩) hnow
  obtain ⟨euI, euS⟩ := interval_le_clock hs hsl eu' (Int.min_le_right _ _) hnow
  refine ⟨ha, hid, hfu, hfn, hold ▸ Int.ofNat_le.2 hou, efI, ?_⟩
  rw [← efI, ← euI, apply_ite (Nat.cast : Nat → Int), euS]
  simp only [Int.natCast_inj]

/-- a clamped request `[f', u']` inside the last `n` steps before `now`, aligned down to the
    step grid and moved one step on (`F`), its end widened by a step when that leaves nothing
    (`U`), is `c` whole steps with `1 ≤ c ≤ n`: in quotients,
    `⌊now/S⌋ - n ≤ ⌊f'/S⌋ ≤ ⌊u'/S⌋ ≤ ⌊now/S⌋` -/
theorem window_steps {S f' u' now F U : Int} {n : Nat} (hS : 0 < S) (hn : 0 < n) (hfu : f' ≤ u') (hun : u' ≤ now)
    (hlo : now - S * n ≤ f') (eF : F = f' - f' % S + S)
    (eU : U = if f' - f' % S + S = u' - u' % S + S then u' - u' % S + S + S else u' - u' % S + S) :
    ∃ c : Nat, 0 < c ∧ c ≤ n ∧ U = F + S * c ∧ S ∣ F ∧ now - S * n < F ∧ F ≤ now + S ∧
      U ≤ now + 2 * S := by
  have hf := Int.emod_lt_of_pos f' hS
  have hf0 := Int.emod_nonneg f' (Int.ne_of_gt hS)
  have hu := Int.emod_nonneg u' (Int.ne_of_gt hS)
  have hbd : now - S * n < F ∧ F ≤ now + S ∧ U ≤ now + 2 * S := by omega
  have ef : f' - f' % S = S * (f' / S) := by rw [Int.emod_def, Int.sub_sub_self]
  have eu : u' - u' % S = S * (u' / S) := by rw [Int.emod_def, Int.sub_sub_self]
  have h1 : f' / S ≤ u' / S := Int.ediv_le_ediv hS hfu
  have h2 : u' / S ≤ now / S := Int.ediv_le_ediv hS hun
  have h3 : now / S - n ≤ f' / S := by
    have := Int.ediv_le_ediv hS hlo
    rwa [Int.sub_eq_add_neg, ← Int.mul_neg, Int.add_mul_ediv_left _ _ (Int.ne_of_gt hS)] at this
  rw [ef] at eF
  rw [ef, eu] at eU
  have hd : S ∣ F := eF ▸ Int.dvd_add (Int.dvd_mul_right _ _) (Int.dvd_refl S)
  clear hfu hun hlo hf hf0 hu ef eu
  generalize f' / S = qf at *
  generalize u' / S = qu at *
  by_cases hq : qf = qu
  · subst hq
    rw [if_pos rfl] at eU
    exact ⟨1, Nat.one_pos, hn, by rw [eU, eF, Int.natCast_one, Int.mul_one], hd, hbd⟩
  · rw [if_neg fun h => hq (Int.eq_of_mul_eq_mul_left (Int.ne_of_gt hS) ((Int.add_left_inj S).1 h))] at eU
    obtain ⟨c, rfl⟩ := Int.le.dest h1
    exact ⟨c, by omega, by omega, by rw [eU, eF, Int.mul_add, Int.add_right_comm], hd, hbd⟩

/-- **the planned window, inside the clock zone**: `c` whole steps, `1 ≤ c ≤ N`, starting on
    the step grid after the retention cut-off and no later than one step past the clock -/
theorem plan_window {archs : List Arch} {k : Int} {f u now : Nat} {p : FetchPlan}
    (hp : fetchPlan archs k f u now = .ok (some p)) (ok : ArchOK p.a)
    (hclock : p.a.step * (p.a.n : Int) ≤ now) (hnow : (now : Int) + p.a.step < 2147483648) :
    ∃ c : Nat, 0 < c ∧ c ≤ p.a.n ∧ p.untilI = p.fromI + p.a.step.toNat * c ∧
      p.a.step ∣ (p.fromI : Int) ∧ (now : Int) - p.a.step * (p.a.n : Int) < p.fromI ∧
      (p.fromI : Int) ≤ now + p.a.step ∧ (p.untilI : Int) ≤ now + 2 * p.a.step := by
  have hsl := ok.step_lt
  obtain ⟨hs, hn, hr⟩ := ok
  obtain ⟨_, _, hfu, hfn, hnu, hI⟩ := shape archs k f u now p hp hs hsl hn hr hclock hnow
  have hP := Int.mul_nonneg (Int.le_of_lt hs) (Int.natCast_nonneg p.a.n)
  obtain ⟨c, hc0, hcn, hU, rest⟩ := window_steps hs hn
    (Int.max_le.2 ⟨Int.le_min.2 ⟨Int.ofNat_le.2 hfu, Int.ofNat_le.2 hfn⟩, Int.le_min.2 ⟨hnu, Int.sub_le_self _ hP⟩⟩)
    (Int.min_le_right _ _) (Int.le_max_right _ _) hI.1 hI.2
  exact ⟨c, hc0, hcn, Int.natCast_inj.1 (hU.trans (window_cast hs _ _).symm), rest⟩

theorem readPoints_length {h : Handle} {offs : List Nat} {pts : List Point}
    (hr : h.readPoints offs = .ok pts) : pts.length = offs.length := by
  induction offs generalizing pts with
  | nil => cases hr; rfl
  | cons o os ih =>
    unfold readPoints at hr
    split at hr
    · cases hr
    · split at hr
      · cases hr
      · cases hr; simp [ih ‹_›]

theorem fetchRawPoints_length (h : Handle) (a : Arch) (fI uI : Nat) (pts : List Point)
    (hr : h.fetchRawPoints a fI uI = .ok pts) :
    pts.length = (Int.tdiv (tsSub uI fI) a.step).toNat := by
  unfold fetchRawPoints at hr
  split at hr
  · cases hr
  · dsimp only at hr
    split at hr
    · cases hr
    · split at hr
      · cases hr
      · split at hr
        · cases hr
        · cases hr
          rw [List.length_append, List.length_replicate, readPoints_length ‹_›]
          omega

theorem clearOldPoints_length (step : Int) (cur : Nat) (pts : List Point) :
    (clearOldPoints step cur pts).length = pts.length := by
  induction pts generalizing cur with
  | nil => rfl
  | cons p ps ih => simp [clearOldPoints, ih]

/-- bounds and step are the planned ones; the number of values is `(until − from)/step`
    in both branches (never-written archive or not). -/
theorem exec_shape (h : Handle) (p : FetchPlan) (s : Series) (hx : h.fetchExec p = .ok s)
    (hs : 0 < p.a.step) (hsl : p.a.step < 2147483648)
    (hle : p.fromI ≤ p.untilI) (hul : p.untilI < 2147483648) :
    s.from_ = p.fromI ∧ s.until_ = p.untilI ∧ s.step = p.a.step ∧
    (s.values.length : Int) = ((p.untilI : Int) - (p.fromI : Int)) / p.a.step := by
  unfold fetchExec at hx
  have hd : 0 ≤ (p.untilI : Int) - (p.fromI : Int) := Int.sub_nonneg.2 (Int.ofNat_le.2 hle)
  split at hx
  · cases hx
  · split at hx
    · cases hx
      refine ⟨rfl, rfl, rfl, ?_⟩
      rw [List.length_replicate, u32_div_ideal _ _ hd (by omega) hs (by omega)]
    · split at hx
      · cases hx
      · cases hx
        refine ⟨rfl, rfl, rfl, ?_⟩
        rw [List.length_map, clearOldPoints_length, fetchRawPoints_length h _ _ _ _ ‹_›,
          tsSub_ideal _ _ hul (Nat.lt_of_le_of_lt hle hul), Int.tdiv_eq_ediv_of_nonneg hd,
          Int.toNat_of_nonneg (Int.ediv_nonneg hd (Int.le_of_lt hs))]

/-- **the shape never depends on what has been stored**: two handles with the same
    archive list — one possibly never written — plan the same fetch, and if both fetches
    succeed they have the same bounds, step and number of values. -/
theorem shape_independent_of_content (h1 h2 : Handle) (heq : h1.hdr.archives = h2.hdr.archives)
    (k : Int) (f u now : Nat) :
    fetchPlan h1.archs k f u now = fetchPlan h2.archs k f u now ∧
    ∀ p s1 s2, fetchPlan h1.archs k f u now = .ok (some p) →
      h1.fetchExec p = .ok s1 → h2.fetchExec p = .ok s2 →
      0 < p.a.step → p.a.step < 2147483648 → p.fromI ≤ p.untilI → p.untilI < 2147483648 →
      s1.from_ = s2.from_ ∧ s1.until_ = s2.until_ ∧ s1.step = s2.step ∧ s1.values.length = s2.values.length := by
  constructor
  · unfold Handle.archs; rw [heq]
  · intro p s1 s2 _ hx1 hx2 hs hsl hle hul
    obtain ⟨a1, b1, c1, d1⟩ := exec_shape h1 p s1 hx1 hs hsl hle hul
    obtain ⟨a2, b2, c2, d2⟩ := exec_shape h2 p s2 hx2 hs hsl hle hul
    exact ⟨a1.trans a2.symm, b1.trans b2.symm, c1.trans c2.symm, Int.natCast_inj.1 (d1.trans d2.symm)⟩

/-- every successful fetch returns a series that the codec round-trips (C14's hypothesis) -/
theorem fetch_result_wf (h : Handle) (p : FetchPlan) (s : Series) (hx : h.fetchExec p = .ok s)
    (hs : 0 < p.a.step) (hsl : p.a.step < 2147483648)
    (hle : p.fromI ≤ p.untilI) (hul : p.untilI < 2147483648) : SeriesWF s := by
  obtain ⟨a1, b1, c1, d1⟩ := exec_shape h p s hx hs hsl hle hul
  refine ⟨by omega, by omega, a1 ▸ b1 ▸ hle, c1 ▸ hs, c1 ▸ hsl, ?_⟩
  rw [a1, b1, c1, Int.tdiv_eq_ediv_of_nonneg (Int.sub_nonneg.2 (Int.ofNat_le.2 hle)), ← d1, Int.toNat_natCast]

end Wsp.C04
