/-
  C09  diff reports exactly the slots that differ.

  `diffLoop` is ⟦TimeSeries.DiffPoints⟧; `diffOne`/`diffMany` are the command.  For two
  series of equal bounds, step and length the listed slots are exactly those whose values
  are not `Equal` (two NaNs are equal, +0 = −0), in time order, each with both values; one
  series compared with itself by `diffPoints` is clean (`self_clean`); for two value lists of
  equal length "no differing slot" is symmetric (`symmetric`); a missing file on either
  side is a reported difference; unequal layouts are an error; with a glob one differing
  file makes the run report a difference, and a hard error in one file is the outcome of the
  run whatever the files before it showed.
-/
import Wsp.Props.CmdBasics

namespace Wsp.C09
open Wsp.Cmd

/-- the slots (by index) at which two value lists differ -/
def differing (o : FOps) : Nat → List Val → List Val → List Nat
  | i, v :: vs, v2 :: vs2 => if !o.vEqual v v2 then i :: differing o (i + 1) vs vs2 else differing o (i + 1) vs vs2
  | _, _, _ => []

/-- `DiffPoints` with a common origin lists the differing slots, each with the two values
    (`val1`, `val2`: the values by absolute index, so that the induction needs no shifting) -/
theorem diffLoop_differing {o : FOps} {f : Nat} {step : Int} {val1 val2 : Nat → Val} {i : Nat} {vs vs2 : List Val}
    (hl : vs.length = vs2.length)
    (hv : ∀ k, k < vs.length → val1 (i + k) = vs.getD k 0 ∧ val2 (i + k) = vs2.getD k 0) :
    diffLoop o false f f step i vs vs2 =
      ((differing o i vs vs2).map fun j => ⟨tsAdd f (i32 ((j : Int) * step)), val1 j⟩,
       (differing o i vs vs2).map fun j => ⟨tsAdd f (i32 ((j : Int) * step)), val2 j⟩) := by
  induction vs generalizing i vs2 with
  | nil => cases vs2 <;> simp [diffLoop, differing]
  | cons v vs ih =>
    cases vs2 with
    | nil => simp at hl
    | cons v2 vs2 =>
      have h0 := hv 0 (by simp)
      simp only [Nat.add_zero, List.getD_cons_zero] at h0
      have ih' := ih (i := i + 1) (vs2 := vs2) (by simpa using hl) fun k hk => by
        have := hv (k + 1) (by simpa using hk)
        rwa [List.getD_cons_succ, List.getD_cons_succ, ← Nat.add_assoc, Nat.add_right_comm] at this
      simp only [diffLoop, differing, ih']
      by_cases he : o.vEqual v v2 = true <;> simp [he, h0]

/-- **lists exactly**: with a common origin, `DiffPoints` returns one entry per differing
    slot, in time order, carrying the slot's time and the two values -/
theorem lists_exactly (o : FOps) (f : Nat) (step : Int) :
    ∀ (i : Nat) (vs vs2 : List Val), vs.length = vs2.length →
      (diffLoop o false f f step i vs vs2).1 =
        (differing o i vs vs2).map (fun j => ⟨tsAdd f (i32 ((j : Int) * step)), vs.getD (j - i) 0⟩) ∧
      (diffLoop o false f f step i vs vs2).2 =
        (differing o i vs vs2).map (fun j => ⟨tsAdd f (i32 ((j : Int) * step)), vs2.getD (j - i) 0⟩) := by
  intro i vs vs2 hl
  rw [diffLoop_differing (val1 := fun j => vs.getD (j - i) 0) (val2 := fun j => vs2.getD (j - i) 0) hl
    fun k _ => by simp only [Nat.add_sub_cancel_left, and_self]]
  exact ⟨rfl, rfl⟩

theorem found_iff (o : FOps) (f : Nat) (step : Int) (vs vs2 : List Val) (hl : vs.length = vs2.length) :
    (diffLoop o false f f step 0 vs vs2).1 = [] ↔ differing o 0 vs vs2 = [] := by
  rw [(lists_exactly o f step 0 vs vs2 hl).1]
  simp

theorem differing_nil_iff (o : FOps) : ∀ (i : Nat) (vs vs2 : List Val), vs.length = vs2.length →
    (differing o i vs vs2 = [] ↔ ∀ j, j < vs.length → o.vEqual (vs.getD j 0) (vs2.getD j 0) = true) := by
  intro i vs vs2 hl
  induction vs generalizing i vs2 with
  | nil => cases vs2 <;> simp [differing]
  | cons v vs ih =>
    cases vs2 with
    | nil => simp at hl
    | cons v2 vs2 =>
      simp only [differing, List.length_cons, Nat.forall_lt_succ_left, List.getD_cons_zero, List.getD_cons_succ,
        ← ih (i + 1) vs2 (by simpa using hl)]
      cases o.vEqual v v2 <;> simp

theorem vEqual_refl {o : FOps} (hl : FLaws o) (v : Val) : o.vEqual v v = true := by
  unfold FOps.vEqual
  cases hn : o.isNaN v
  · simp [hl.eq_refl_of_not_nan v hn]
  · simp

/-- a series compared with itself is clean (NaN = NaN by `Value.Equal`) -/
theorem self_clean (o : FOps) (hl : FLaws o) (s : Option Series) :
    diffPoints o false s s = ([], []) := by
  unfold diffPoints
  rw [if_neg (fun h => h rfl)]
  obtain ⟨h1, h2⟩ := lists_exactly o (sFrom s) (sStep s) 0 _ _ (rfl : (sValues s).length = _)
  rw [(differing_nil_iff o 0 _ _ rfl).2 fun j _ => vEqual_refl hl _] at h1 h2
  exact Prod.ext h1 h2

theorem vEqual_comm (o : FOps) (hl : FLaws o) (a b : Val) : o.vEqual a b = o.vEqual b a := by
  unfold FOps.vEqual
  rw [hl.eq_comm a b]
  cases o.isNaN a <;> cases o.isNaN b <;> simp

theorem symmetric (o : FOps) (hl : FLaws o) (vs vs2 : List Val) (hlen : vs.length = vs2.length) :
    differing o 0 vs vs2 = [] ↔ differing o 0 vs2 vs = [] := by
  rw [differing_nil_iff o 0 vs vs2 hlen, differing_nil_iff o 0 vs2 vs hlen.symm, hlen]
  simp only [vEqual_comm o hl (vs.getD _ 0)]

theorem missing_is_difference (o : FOps) (t : Tree) (src dst : String) (w : Window)
    (hm : t.get src = none ∨ t.get dst = none) : (diffOne o t src dst w).1 = .diffFound := by
  rw [diffOne_with]
  exact diffWith_missing (hm.imp readFile_missing readFile_missing)

theorem layout_mismatch_is_error (o : FOps) (t : Tree) (src dst : String) (w : Window)
    (hs : Header) (ls : List (Option Series)) (hd : Header) (ld : List (Option Series))
    (h1 : readFile o t src w.archiveID w.from_ w.until' w.now = .ok (hs, ls))
    (h2 : readFile o t dst w.archiveID w.from_ w.until' w.now = .ok (hd, ld))
    (hne : layoutsEqual hs.archives hd.archives = false) :
    (diffOne o t src dst w).1 = .err .mismatch := by
  unfold diffOne
  simp [h1, h2, hne]

/-- with a glob every matched pair is compared, and one differing file makes the whole run
    report a difference (unless another error stops it) -/
theorem glob_any (o : FOps) (t : Tree) (w : Window) (pairs : List (String × String))
    (hall : ∀ p ∈ pairs, (diffOne o t p.1 p.2 w).1 = .ok ∨ (diffOne o t p.1 p.2 w).1 = .diffFound) :
    ∀ found, (diffMany o t w pairs found).1 =
      if found ∨ ∃ p ∈ pairs, (diffOne o t p.1 p.2 w).1 = .diffFound then .diffFound else .ok := by
  intro found
  rw [diffMany_verdict]
  exact verdict_map_any _ _ hall found

theorem error_not_masked (o : FOps) (t : Tree) (w : Window) (pre : List (String × String)) (p : String × String)
    (post : List (String × String)) (k : ErrKind)
    (hpre : ∀ q ∈ pre, (diffOne o t q.1 q.2 w).1 = .ok ∨ (diffOne o t q.1 q.2 w).1 = .diffFound)
    (hp : (diffOne o t p.1 p.2 w).1 = .err k) :
    ∀ found, (diffMany o t w (pre ++ p :: post) found).1 = .err k := by
  intro found
  rw [diffMany_verdict, List.map_append, List.map_cons, hp]
  exact verdict_err _ _ _ _ (List.forall_mem_map.2 hpre)

end Wsp.C09
