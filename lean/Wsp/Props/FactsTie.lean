/-
  The tie between the tables the model states and the source's own tables
  (`Wsp/Generated/Facts.lean`, regenerated from /repo on every run by factgen).
  `valid_agg_is_the_accepted_set` apart, every theorem here is `rfl` on closed terms (a membership:
  `rfl` at the entry's index): if the source's table changes, the obligation breaks on the next
  run (DESIGN §4.1).
-/
import Wsp.Generated.Facts
import Wsp.Model.Text
namespace Wsp.FactsTie

theorem sizes :
    Facts.uint32Size = 4 ∧ Facts.uint64Size = 8 ∧ Facts.float32Size = 4 ∧ Facts.float64Size = 8 ∧
    Facts.metaSize = (Wsp.metaSize : Int) ∧ Facts.archiveInfoListSize = (Wsp.archiveInfoSize : Int) ∧
    Facts.pointSize = (Wsp.pointSize : Int) := ⟨rfl, rfl, rfl, rfl, rfl, rfl, rfl⟩

theorem archive_ids : Facts.archiveIDBest = -1 ∧ Facts.archiveIDAll = -1 := ⟨rfl, rfl⟩

theorem unit_table : Facts.unitTable = Wsp.unitTable := rfl

theorem print_table :
    Facts.durationPrintTable = Wsp.printTable ∧ Facts.durationDefaultFormat = "%ds" := ⟨rfl, rfl⟩

theorem units_are_the_constants :
    Wsp.unitTable = [('s', Facts.second), ('m', Facts.minute), ('h', Facts.hour), ('d', Facts.day),
      ('w', Facts.week), ('y', Facts.year)] := rfl

theorem agg_methods :
    Facts.validAggMethods = [1, 2, 3, 4, 5, 6] ∧ Facts.flagAggMethods = Facts.validAggMethods ∧
    [Facts.aggAverage, Facts.aggSum, Facts.aggLast, Facts.aggMax, Facts.aggMin, Facts.aggFirst,
      Facts.aggMix, Facts.aggPercentile] = [1, 2, 3, 4, 5, 6, 7, 8] := ⟨rfl, rfl, rfl⟩

theorem valid_agg_is_the_accepted_set (m : Nat) :
    Wsp.validAgg m = true ↔ (m : Int) ∈ Facts.validAggMethods := by
  simp [Wsp.validAgg, Facts.validAggMethods]; omega

theorem agg_names :
    Facts.aggMethodNames = "averagesumlastmaxminfirstmixpercentile" ∧
    Facts.aggMethodIndex = [0, 7, 10, 14, 17, 20, 25, 28, 38] := ⟨rfl, rfl⟩

theorem time_layout : Facts.utcTimeLayout = "2006-01-02T15:04:05Z" := rfl

/-- C05: the buffer is flushed by `Sync` only; the file is written only through the buffer;
    `file.Sync` is called by `Sync` only. -/
theorem disk_writers :
    Facts.flushCallers = ["Sync"] ∧ Facts.fileSyncCallers = ["Sync"] ∧
    Facts.directFileWriteCallers = [] ∧ Facts.writeAtCallers = ["putHeader", "putPointAt"] ∧
    Facts.truncateCallers = ["Create"] := ⟨rfl, rfl, rfl, rfl, rfl⟩

/-- C08, C11, C20 (and every reading command): who reads a clock, and how many times.  Each
    command reads the wall clock once per file or item (the two extra readings in the `execute`
    of the looping commands time the run for its log line) and hands the instant on; the
    library reads its own clock only in the three entry points that may be called without an
    instant, and never the wall clock directly. -/
theorem clock_readers :
    Facts.cmdClockReaders = ["CopyCommand.copyOneFile:1", "CopyCommand.execute:2", "DiffCommand.diffOneFile:1",
      "DiffCommand.execute:2", "GenerateCommand.execute:1", "SumCommand.execute:1", "SumCopyCommand.execute:2",
      "SumCopyCommand.sumCopyItem:1", "SumDiffCommand.execute:2", "SumDiffCommand.sumDiffItem:1",
      "ViewCommand.execute:1", "ViewRawCommand.execute:1", "newRandSeed:1"] ∧
    Facts.libClockReaders = ["Whisper.FetchFromArchive:1", "Whisper.UpdatePointForArchive:1",
      "Whisper.UpdatePointsForArchive:1"] ∧
    Facts.libWallClockReaders = [] := ⟨rfl, rfl, rfl⟩

/-- C13: the lock is taken in one place. -/
theorem lock_site : Facts.flockCallers = ["openAndLockFile"] := rfl

/-- C17: no read-path function of whisper.go assigns a field of the handle. -/
theorem field_assigners :
    Facts.fieldAssigners.map (·.1) =
      ["Create", "Open", "WithOpenFileFlag", "WithPerm", "WithoutFlock", "openAndLockFile", "readHeader"] :=
  rfl

theorem remote_headers : Facts.respHeaderXOp = "X-Op" ∧ Facts.respHeaderXPath = "X-Path" := ⟨rfl, rfl⟩

/-- C18: the line formats of view / view-raw / diff / header. -/
theorem line_formats :
    ("PointsList.Print", "archive:%d\tt:%s\tval:%s\n") ∈ Facts.printFormats ∧
    ("printDiff", "archive:%d\tt:%s\tsrcVal:%s\tdestVal:%s\tdestMinusSrc:%s\n") ∈ Facts.printFormats ∧
    ("Header.String", "aggMethod:%s\taggMethodNum:%d\tmaxRetention:%s\txFileFactor:%s\tarchiveCount:%d\n") ∈ Facts.printFormats ∧
    ("Header.String", "archiveInfo:%d\tdurationPerPoint:%s\tnumberOfPoints:%d\toffset:%d\n") ∈ Facts.printFormats :=
  -- membership by the index of the entry: searching with `decide` compares strings that differ, which is dear
  ⟨List.mem_of_getElem? (i := 10) rfl, List.mem_of_getElem? (i := 9) rfl,
   List.mem_of_getElem? (i := 25) rfl, List.mem_of_getElem? (i := 26) rfl⟩

end Wsp.FactsTie
