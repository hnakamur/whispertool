/-
  C18 at the level of the two commands: on the same file, window and clock, every record
  `view` prints with a known (non-NaN) value whose time lies inside the requested range is
  also printed by `view-raw` — with the same archive id, time and value, sorted or not — with
  all archives selected (`view_subset_viewRaw`) or one (`view_subset_viewRaw_one`).

  The window hypotheses (`WinSpec`) are discharged from the clock: what ⟦fetchPlan⟧ yields
  inside the clock zone is a window of the kind the ring theorems talk about (`C08.WinZone`,
  `C04Z.plan_winzone`), and every window with from ≤ until, from ≤ now and until not before
  the archive's retention has such a plan (`winSpec_of_window`) — so `view_subset_viewRaw`
  holds under plain arithmetic conditions on the request (`view_subset_viewRaw_plain`).
-/
import Wsp.Props.C08All
import Wsp.Props.C18

namespace Wsp.C04Z
open Wsp.Handle Wsp.C08

theorem plan_winzone (archs : List Arch) (k : Int) (f u now : Nat) (p : FetchPlan)
    (hp : fetchPlan archs k f u now = .ok (some p))
    (ok : ArchOK p.a)
    (hclock : p.a.step * (p.a.n : Int) ≤ now) (hnow : (now : Int) + 2 * p.a.step < 2147483648) :
    ∃ cnt, 0 < cnt ∧ p.untilI = p.fromI + p.a.step.toNat * cnt ∧ WinZone p.a p.fromI cnt now := by
  -- `2 * step`: a window that would be empty is widened by a step, so its end may lie two steps past the clock
  obtain ⟨c, hc0, hcn, hU, hd, hyoung, _, hUle⟩ := C04.plan_window hp ok hclock (by have := ok.1; omega)
  refine ⟨c, hc0, hU, ok, hd, by omega, by omega, hcn, ?_⟩
  have := C04.cutoff_ideal ok hclock (by have := ok.1; omega)
  omega

end Wsp.C04Z

namespace Wsp.C18
open Wsp.Handle Wsp.Total Wsp.C01 Wsp.Cmd Wsp.Inv Wsp.C08

/-- ⟦view-raw⟧'s reading of all archives: all slots of each, in slot order -/
theorem rawAll_reads (A : Nat → Arch) (h : Handle) (al : AllState h) :
    ∀ (as : List Arch) (i : Nat), i + as.length = h.archs.length →
      (∀ k, k < h.archs.length → h.archs[k]? = some (A k)) →
      rawAll h i as = .ok ((List.range as.length).map fun j => (List.range (A (i + j)).n).map (slotAt h (A (i + j)))) := by
  intro as i hi harch
  rw [rawAll_eq]
  refine collect_range fun j hj => ?_
  have hk := harch (i + j) (by omega)
  exact raw_is_all_slots h (i + j) (A (i + j)) hk (al _ _ hk).facts.2.2.2.1

/-- the points `view` prints for a window of the ring -/
theorem seriesPoints_read (h : Handle) (a : Arch) (f cnt : Nat) (hs : 0 < a.step)
    (hhi : f + a.step.toNat * cnt < 2147483648) (p : Point)
    (hp : p ∈ seriesPoints (some (readSeries h a f cnt))) :
    ∃ j, j < cnt ∧ p = ⟨f + a.step.toNat * j, ringValue h a (slotAt h a 0).t (f + a.step.toNat * j)⟩ := by
  rw [seriesPoints, seriesPointsFrom_eq] at hp
  obtain ⟨j, hj, rfl⟩ := List.mem_map.1 hp
  rw [List.mem_range] at hj
  have hjc : j < cnt := by simpa [sValues, readSeries] using hj
  refine ⟨j, hjc, ?_⟩
  have hmul : a.step.toNat * j ≤ a.step.toNat * cnt := Nat.mul_le_mul_left _ (by omega)
  have e : sStep (some (readSeries h a f cnt)) = ((a.step.toNat : Nat) : Int) :=
    (Int.toNat_of_nonneg (Int.le_of_lt hs)).symm
  rw [Nat.zero_add, e, show sFrom (some (readSeries h a f cnt)) = f from rfl, tsAdd_i32_mul f j _ (by omega)]
  simp [sValues, readSeries, hjc]

/-- **one archive of `view` against the same archive of `view-raw`**: a point `view` prints for
    a window of the ring, with a known value and a time inside the requested range, is a
    slot of the ring that view-raw's range filter keeps -/
theorem view_point_in_raw {h : Handle} {a : Arch} {f cnt : Nat} {w : Window} (z : WinZone a f cnt w.now)
    {p : Point} (hp : p ∈ seriesPoints (some (readSeries h a f cnt)))
    (hv : p.v ≠ nanBits) (hrange : (w.from_ = 0 ∨ w.from_ < p.t) ∧ p.t ≤ w.until') :
    p ∈ filterRaw a w.from_ w.until' ((List.range a.n).map (slotAt h a)) := by
  obtain ⟨j, hj, ep⟩ := seriesPoints_read h a f cnt z.ok.1 z.hi p hp
  have hmem : p ∈ (List.range a.n).map (slotAt h a) := by
    rw [ep] at hv ⊢
    -- the field of the literal, reduced here: left to the unifier it unfolds `ringValue` instead
    dsimp only at hv
    exact List.mem_map.mpr ⟨_, List.mem_range.mpr (slotIdx_lt z.ok.2.1 _ _), ringValue_slot hv⟩
  rw [raw_filter_iff]
  refine ⟨hmem, hrange.1, ?_⟩
  split
  · omega -- until = from: `hrange` leaves only `p.t = 0`
  · exact hrange.2

/-- the points view-raw keeps of archive `k` are printed under archive id `k`, sorted or not -/
theorem mem_rawRecs {pl : List (List Point)} {hdr : Header} (w : Window) (sort : Bool) {k : Nat}
    {ps : List Point} {a : Arch} (hpl : pl[k]? = some ps) (ha : hdr.archives[k]? = some a) {p : Point}
    (hp : p ∈ filterRaw a w.from_ w.until' ps) :
    (⟨k, p.t, p.v, none⟩ : Rec) ∈ (C12.rawOut w sort hdr pl).2.2 := by
  have hzip : (pl.zip hdr.archives)[k]? = some (ps, a) := List.getElem?_zip_eq_some.2 ⟨hpl, ha⟩
  unfold C12.rawOut
  cases sort with
  | false => exact view_complete _ k _ p (by simp only [Bool.false_eq_true, if_false, List.getElem?_map, hzip]; rfl) hp
  | true =>
    exact view_complete _ k _ p (by simp only [if_true, List.getElem?_map, hzip]; rfl)
      ((sortByTime_perm _).mem_iff.2 hp)

/-- **view ⊆ view-raw, command to command** (all archives selected, window inside the clock
    zone): a record of `view` with a known value and a time inside the requested range is a
    record of `view-raw` over the same range, sorted or not -/
theorem view_subset_viewRaw (o : FOps) (t : Tree) (path : String) (b : Bytes) (h : Handle) (w : Window) (sort : Bool)
    (A : Nat → Arch) (F C : Nat → Nat)
    (hget : t.get path = some b) (hopen : openBytes o b = .ok h) (al : AllState h)
    (hall : w.archiveID = -1) (hu : w.until' < 2147483648)
    (hspec : ∀ k, k < h.archs.length → WinSpec h w k (A k) (F k) (C k))
    (r : Rec) (hr : r ∈ (Cmd.view o t path w).2.2) (hv : r.v ≠ nanBits)
    (hrange : (w.from_ = 0 ∨ w.from_ < r.t) ∧ r.t ≤ w.until') :
    r ∈ (viewRaw o t path w sort).2.2 := by
  rw [view_open hget hopen, fetchList_win al hall hspec] at hr
  obtain ⟨pts, p, hpl, hp, er⟩ := view_sound _ r hr
  rw [List.map_map, getElem?_range_map] at hpl
  obtain ⟨hk, rfl⟩ := hpl
  have sp := hspec r.arch hk
  rw [er] at hv hrange
  have hfil := view_point_in_raw sp.zone hp hv hrange
  rw [viewRaw_open hget hopen, hall, select_all, ← rawAll_eq,
    rawAll_reads A h al h.archs 0 (by simp) (fun k hk => (hspec k hk).arch), er]
  exact mem_rawRecs w sort (by simp [hk]) sp.arch hfil

theorem view_subset_viewRaw_one (o : FOps) (t : Tree) (path : String) (b : Bytes) (h : Handle) (w : Window) (sort : Bool)
    (k : Nat) (a : Arch) (f cnt : Nat)
    (hget : t.get path = some b) (hopen : openBytes o b = .ok h) (st : ArchState h a)
    (hsel : w.archiveID = (k : Int)) (hu : w.until' < 2147483648)
    (sp : WinSpec h w k a f cnt)
    (r : Rec) (hr : r ∈ (Cmd.view o t path w).2.2) (hv : r.v ≠ nanBits)
    (hrange : (w.from_ = 0 ∨ w.from_ < r.t) ∧ r.t ≤ w.until') :
    r ∈ (viewRaw o t path w sort).2.2 := by
  have hk : k < h.archs.length := (List.getElem?_eq_some_iff.1 sp.arch).1
  rw [view_open hget hopen, fetchList_eq, hsel, select_one hk, win_fetch sp st] at hr
  obtain ⟨pts, p, hpl, hp, er⟩ := view_sound _ r hr
  rw [List.map_map, getElem?_range_map] at hpl
  obtain ⟨hra, rfl⟩ := hpl
  -- only the selected archive has points
  have hrk : r.arch = k := by
    by_cases e : ((r.arch : Nat) : Int) = (k : Int)
    · exact Int.natCast_inj.1 e
    · simp [e, seriesPoints, seriesPointsFrom, sValues] at hp
  simp only [Function.comp, hrk, if_true] at hp
  rw [er] at hv hrange
  have hfil := view_point_in_raw sp.zone hp hv hrange
  rw [viewRaw_open hget hopen, hsel, select_one hk, raw_is_all_slots h k a sp.arch st.facts.2.2.2.1, er, hrk]
  exact mem_rawRecs w sort (by simp [hk]) sp.arch hfil

theorem plan_exists (archs : List Arch) (k : Nat) (a : Arch) (ha : archs[k]? = some a) (f u now : Nat)
    (h1 : f ≤ u) (h3 : f ≤ now) (h4 : ¬ u < tsAdd now (- a.maxRetention)) :
    ∃ p, fetchPlan archs (k : Int) f u now = .ok (some p) ∧ p.a = a := by
  have hk : k < archs.length := (List.getElem?_eq_some_iff.1 ha).1
  have hbad : ¬ C04.BadId archs.length (k : Int) := by unfold C04.BadId; omega
  have hsel : C04.selected archs (k : Int) f now = k := by
    unfold C04.selected
    rw [if_neg (by omega : ¬ ((k : Int) = -1))]; simp
  refine ⟨⟨k, a, C04.planFrom a f now, C04.planUntil a f u now⟩, ?_, rfl⟩
  rw [C04.fetchPlan_eq, if_neg (by omega), if_neg hbad, hsel, ha]
  exact if_neg (by omega)

/-- **the window specification from arithmetic conditions on the request** -/
theorem winSpec_of_window (h : Handle) (g : Good h) (w : Window) (k : Nat) (a : Arch) (ha : h.archs[k]? = some a)
    (hfu : w.from_ ≤ w.until') (hfn : w.from_ ≤ w.now) (hreach : ¬ w.until' < tsAdd w.now (- a.maxRetention))
    (hclock : a.step * (a.n : Int) ≤ w.now) (hnow : (w.now : Int) + 2 * a.step < 2147483648) :
    ∃ f cnt, WinSpec h w k a f cnt := by
  obtain ⟨p, hp, rfl⟩ := plan_exists h.archs k a ha w.from_ w.until' w.now hfu hfn hreach
  have ok : ArchOK p.a := wfFrom_archOK g.wf.2.2 _ (List.mem_of_getElem? ha)
  obtain ⟨cnt, hpos, hun, z⟩ := C04Z.plan_winzone h.archs (k : Int) w.from_ w.until' w.now p hp ok hclock hnow
  exact ⟨p.fromI, cnt, ha, hpos, z, ⟨p, hp, rfl, rfl, hun⟩⟩

/-- `winSpec_of_window` for every archive of the file at once, the witnesses as functions of the index -/
theorem winSpecs_exist {h : Handle} (g : Good h) {w : Window} (hfu : w.from_ ≤ w.until') (hfn : w.from_ ≤ w.now)
    (hz : ∀ a ∈ h.archs, ¬ w.until' < tsAdd w.now (- a.maxRetention) ∧ a.step * (a.n : Int) ≤ w.now ∧
      (w.now : Int) + 2 * a.step < 2147483648) :
    ∃ (A : Nat → Arch) (F C : Nat → Nat), ∀ k, k < h.archs.length → WinSpec h w k (A k) (F k) (C k) := by
  have hex : ∀ k, ∃ x : Arch × Nat × Nat, k < h.archs.length → WinSpec h w k x.1 x.2.1 x.2.2 := by
    intro k
    by_cases hk : k < h.archs.length
    · obtain ⟨h1, h2, h3⟩ := hz _ (List.getElem_mem hk)
      obtain ⟨f, cnt, sp⟩ := winSpec_of_window h g w k _ (List.getElem?_eq_getElem hk) hfu hfn h1 h2 h3
      exact ⟨(_, f, cnt), fun _ => sp⟩
    · exact ⟨default, fun hk' => absurd hk' hk⟩
  obtain ⟨X, hX⟩ := Classical.skolem.1 hex
  exact ⟨fun k => (X k).1, fun k => (X k).2.1, fun k => (X k).2.2, hX⟩

/-- **view ⊆ view-raw under plain conditions**: a file whose archives satisfy the invariant,
    the clock inside the zone of every archive, and a request window that reaches every
    archive -/
theorem view_subset_viewRaw_plain (o : FOps) (t : Tree) (path : String) (b : Bytes) (h : Handle) (w : Window) (sort : Bool)
    (hget : t.get path = some b) (hopen : openBytes o b = .ok h) (al : AllState h)
    (hall : w.archiveID = -1) (hu : w.until' < 2147483648)
    (hfu : w.from_ ≤ w.until') (hfn : w.from_ ≤ w.now)
    (hz : ∀ a ∈ h.archs, ¬ w.until' < tsAdd w.now (- a.maxRetention) ∧ a.step * (a.n : Int) ≤ w.now ∧
      (w.now : Int) + 2 * a.step < 2147483648)
    (r : Rec) (hr : r ∈ (Cmd.view o t path w).2.2) (hv : r.v ≠ nanBits)
    (hrange : (w.from_ = 0 ∨ w.from_ < r.t) ∧ r.t ≤ w.until') :
    r ∈ (viewRaw o t path w sort).2.2 := by
  obtain ⟨A, F, C, hspec⟩ := winSpecs_exist (open_good o b _ h hopen) hfu hfn hz
  exact view_subset_viewRaw o t path b h w sort A F C hget hopen al hall hu hspec r hr hv hrange

/-- a never-written file of the layout 1s:8, 4s:6 satisfies the invariant -/
theorem exHandle_allstate : AllState exHandle := by
  intro k a ha
  left
  have hmem : a ∈ exHandle.archs := List.mem_of_getElem? ha
  simp only [exHandle, Handle.archs, List.mem_cons, List.not_mem_nil, or_false] at hmem
  have hz : ∀ j, (slotAt exHandle a j).t = 0 := by
    intro j
    unfold slotAt exHandle
    simp only [List.drop_replicate]
    exact C20.de32_zeros _
  rcases hmem with rfl | rfl <;>
    exact ⟨by decide, by decide, by decide, by simp only [exHandle, List.length_replicate]; decide, fun j _ => hz j⟩

/-- at clock 1 700 000 000 the window of the last five seconds reaches both archives, inside
    the zone: the arithmetic hypotheses of `view_subset_viewRaw_plain` hold -/
example : let w : Window := ⟨-1, 1699999995, 0, 1700000000⟩
    w.until' < 2147483648 ∧ w.from_ ≤ w.until' ∧ w.from_ ≤ w.now ∧
    ∀ a ∈ exHandle.archs, ¬ w.until' < tsAdd w.now (- a.maxRetention) ∧ a.step * (a.n : Int) ≤ w.now ∧
      (w.now : Int) + 2 * a.step < 2147483648 := by
  intro w
  refine ⟨by decide, by decide, by decide, ?_⟩
  intro a ha
  simp only [exHandle, Handle.archs, List.mem_cons, List.not_mem_nil, or_false] at ha
  rcases ha with rfl | rfl <;> decide

end Wsp.C18
