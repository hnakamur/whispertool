/-
  C08 / C11 composed over all archives of one run of `copy` (or `sum-copy`): after
  ⟦copyDifferentPoints⟧ has gone through the archives — finest first, each coarser archive
  read again after the finer writes have propagated into it — every interval of every
  archive's window reads a value `Equal` to the source's, unless the source's is a NaN that
  was not to be copied (`copyArchives_run`).  Then from the command's core down
  (`copyCore`, all archives selected): if it reports success, either nothing was to be copied —
  and the destination already agreed with the source on every archive's window — or the
  points were written and the destination, as published by the final Sync, agrees with the
  source on every archive's window (`copyCore_agrees`).
  Throughout, per archive index `k`: `A k` the archive, `F k` the first interval of its window,
  `C k` the window's count, `V k` the source's values; `L` (`ArchSpec.late`, `Coarse hd L`) is the
  bound below which no time is written (see `Coarse` in Invariant.lean).
-/
import Wsp.Props.Invariant
import Wsp.Props.C08Dest

namespace Wsp.C18
open Wsp.Handle Wsp.C01 Wsp.Cmd Wsp.Inv Wsp.C08

/-- what is known of archive `k` for this window (what `fetchPlan` yields in the clock zone) -/
structure WinSpec (h : Handle) (w : Window) (k : Nat) (a : Arch) (f cnt : Nat) : Prop where
  arch : h.archs[k]? = some a
  pos : 0 < cnt
  zone : WinZone a f cnt w.now
  plan : ∃ p, fetchPlan h.archs (k : Int) w.from_ w.until' w.now = .ok (some p) ∧ p.a = a ∧ p.fromI = f ∧
    p.untilI = f + a.step.toNat * cnt

theorem win_fetch {h : Handle} {w : Window} {k : Nat} {a : Arch} {f cnt : Nat}
    (sp : WinSpec h w k a f cnt) (st : ArchState h a) :
    h.fetchFromArchive (k : Int) w.from_ w.until' w.now = .ok (some (readSeries h a f cnt)) := by
  obtain ⟨p, hp, hpa, hpf, hpu⟩ := sp.plan
  unfold fetchFromArchive
  rw [hp]
  simp only
  rw [fetchExec_reads h a st f cnt w.now sp.zone sp.pos p hpa hpf hpu]

theorem fetchAll_win (w : Window) (A : Nat → Arch) (F C : Nat → Nat) (h : Handle) (al : AllState h) :
    ∀ (as : List Arch) (i : Nat), i + as.length = h.archs.length →
      (∀ k, k < h.archs.length → WinSpec h w k (A k) (F k) (C k)) →
      fetchAll h w.now w.from_ w.until' i as =
        .ok ((List.range as.length).map fun j => some (readSeries h (A (i + j)) (F (i + j)) (C (i + j)))) := by
  intro as i hi hspec
  rw [fetchAll_eq]
  refine collect_range fun j hj => ?_
  have sp := hspec (i + j) (by omega)
  exact win_fetch sp (al _ _ sp.arch)

theorem fetchList_win {w : Window} {A : Nat → Arch} {F C : Nat → Nat} {h : Handle} (al : AllState h)
    (hall : w.archiveID = -1) (hspec : ∀ k, k < h.archs.length → WinSpec h w k (A k) (F k) (C k)) :
    fetchList h w.archiveID w.from_ w.until' w.now =
      .ok ((List.range h.archs.length).map fun j => some (readSeries h (A j) (F j) (C j))) := by
  rw [fetchList_eq, hall, select_all, ← fetchAll_eq, fetchAll_win w A F C h al h.archs 0 (by simp) hspec]
  simp only [Nat.zero_add]

end Wsp.C18

namespace Wsp.C08
open Wsp.Handle Wsp.Total Wsp.C01 Wsp.Cmd Wsp.Inv Wsp.C18

theorem readFile_win (o : FOps) (t : Tree) (path : String) (b : Bytes) (h : Handle) (w : Window)
    (A : Nat → Arch) (F C : Nat → Nat)
    (hget : t.get path = some b) (hopen : openBytes o b = .ok h) (al : AllState h) (hall : w.archiveID = -1)
    (hspec : ∀ k, k < h.archs.length → WinSpec h w k (A k) (F k) (C k)) :
    readFile o t path w.archiveID w.from_ w.until' w.now =
      .ok (h.hdr, (List.range h.archs.length).map fun j => some (readSeries h (A j) (F j) (C j))) :=
  readFile_ok_iff.2 ⟨b, h, hget, hopen, rfl, C18.fetchList_win al hall hspec⟩

/-- what is known of archive `k` of the run: its source series and the window it spans -/
structure ArchSpec (h : Handle) (ls : List (Option Series)) (w : Window) (L : Nat) (k : Nat)
    (a : Arch) (f cnt : Nat) (vs : List Val) : Prop where
  arch : h.archs[k]? = some a
  src : ls.getD k none = some ⟨f, f + a.step.toNat * cnt, a.step, vs⟩
  len : vs.length = cnt
  pos : 0 < cnt
  zone : WinZone a f cnt w.now
  late : L ≤ f
  plan : ∃ p, fetchPlan h.archs (k : Int) w.from_ w.until' w.now = .ok (some p) ∧ p.a = a ∧ p.fromI = f ∧
    p.untilI = f + a.step.toNat * cnt

/-- the destination's archive `k` agrees with the source on the window -/
def Agrees (o : FOps) (excl : Bool) (h : Handle) (a : Arch) (f cnt : Nat) (vs : List Val) : Prop :=
  ∀ j, j < cnt →
    o.vEqual (vs.getD j 0) (ringValue h a (slotAt h a 0).t (f + a.step.toNat * j)) = true ∨
    (excl = true ∧ o.isNaN (vs.getD j 0) = true)

variable {o : FOps} {excl : Bool} {h : Handle} {ls : List (Option Series)} {w : Window} {L k : Nat} {a : Arch}
  {f cnt : Nat} {vs : List Val}

theorem ArchSpec.of_hdr {h' : Handle} (sp : ArchSpec h ls w L k a f cnt vs) (hh : h'.hdr = h.hdr) :
    ArchSpec h' ls w L k a f cnt vs := by
  have e : h'.archs = h.archs := congrArg Header.archives hh
  exact ⟨e ▸ sp.arch, sp.src, sp.len, sp.pos, sp.zone, sp.late, e ▸ sp.plan⟩

theorem ArchSpec.toWin (sp : ArchSpec h ls w L k a f cnt vs) : C18.WinSpec h w k a f cnt :=
  ⟨sp.arch, sp.pos, sp.zone, sp.plan⟩

/-- the points a step of the run writes to an archive with a specification: the differences
    between the source's window and the ring's (`hfirst`: the batch prepared for the finest
    archive was computed from the same reading) -/
theorem spec_copyPts {ps : List Point} (sp : ArchSpec h ls w L k a f cnt vs) (st : ArchState h a)
    (hfirst : k = 0 → ps = (diffPoints o excl (ls.getD 0 none) (some (readSeries h a f cnt))).1) :
    copyPts o ls excl w h k ps =
      .ok (diffPoints o excl (some ⟨f, f + a.step.toNat * cnt, a.step, vs⟩) (some (readSeries h a f cnt))).1 := by
  unfold copyPts
  rw [sp.src]
  by_cases h0 : k = 0
  · have := hfirst h0
    subst h0
    rw [sp.src] at this
    simp only [if_true, this]
  · simp only [h0, if_false, win_fetch sp.toWin st]

/-- the points `spec_copyPts` names lie inside the window, so below 2^31 and not before `L` -/
theorem spec_pts_late (sp : ArchSpec h ls w L k a f cnt vs) :
    ∀ p ∈ (diffPoints o excl (some ⟨f, f + a.step.toNat * cnt, a.step, vs⟩) (some (readSeries h a f cnt))).1,
      p.t < 2147483648 ∧ L ≤ p.t := by
  intro p hp
  rw [diffPoints_wanted sp.zone.ok.1 sp.len sp.zone.hi] at hp
  obtain ⟨j, hj, _, rfl, _⟩ := wanted_mem.1 hp
  rw [Nat.zero_add]
  exact ⟨(sp.zone.grid (sp.len ▸ hj)).1.1, Nat.le_trans sp.late (Nat.le_add_right _ _)⟩

/-- the later archives of the run leave archive `i0` alone -/
theorem copyArchives_behind (o : FOps) (ls : List (Option Series)) (excl : Bool) (w : Window) (i0 : Nat) (a0 : Arch)
    (batches : List (List Point)) :
    ∀ (h h'' : Handle) (i : Nat) (written : List (List Point)), Good h → h.archs[i0]? = some a0 → i0 < i →
      copyArchives o ls excl w h i batches = .ok (h'', written) → SameOn a0 h h'' ∧ h''.hdr = h.hdr := by
  intro h h'' i written g ha0 hi hp
  induction batches generalizing h i written with
  | nil =>
    cases hp
    exact ⟨SameOn.refl a0 _, rfl⟩
  | cons ps rest ih =>
    obtain ⟨pts, h', wr, _, hu, hr, _⟩ := copyArchives_cons_ok_iff.1 hp
    have fr := updateMany_frame o h h' g.placed pts (i : Int) w.now hu
    obtain ⟨s2, hh⟩ := ih h' (i + 1) wr (g.of_frame fr) (fr.archs ▸ ha0) (by omega) hr
    exact ⟨(updateMany_named_behind o h h' g i i0 hi a0 ha0 pts w.now hu).trans s2, hh.trans fr.1⟩

/-- **one run of ⟦copyDifferentPoints⟧ over archives with specifications** keeps the
    invariant and the frame of the file, and leaves every archive's window in agreement with
    the source: each step writes the differences of its window (`spec_copyPts`), which
    `copy_step` turns into agreement and the later steps leave alone (`copyArchives_behind`) -/
theorem copyArchives_run (L : Nat) (A : Nat → Arch) (F C : Nat → Nat) (V : Nat → List Val)
    {batches : List (List Point)} {h'' : Handle} {i : Nat} {written : List (List Point)}
    (g : Good h) (al : AllState h) (c : Coarse h L)
    (hspec : ∀ k, i ≤ k → k < i + batches.length → ArchSpec h ls w L k (A k) (F k) (C k) (V k))
    (hfirst : i = 0 → ∀ ps, batches.head? = some ps →
      ps = (diffPoints o excl (ls.getD 0 none) (some (readSeries h (A 0) (F 0) (C 0)))).1)
    (hp : copyArchives o ls excl w h i batches = .ok (h'', written)) :
    AllState h'' ∧ Good h'' ∧ Frame (16 + 12 * h.hdr.archives.length) h h'' ∧
      (FLaws o → ∀ k, i ≤ k → k < i + batches.length → Agrees o excl h'' (A k) (F k) (C k) (V k)) := by
  induction batches generalizing h i written with
  | nil =>
    cases hp
    exact ⟨al, g, Frame.refl _ _, fun _ k h1 h2 => absurd h2 (Nat.not_lt.2 h1)⟩
  | cons ps rest ih =>
    have hlen : i + 1 + rest.length = i + (ps :: rest).length := by rw [List.length_cons, Nat.add_assoc, Nat.add_comm 1]
    have spi := hspec i (Nat.le_refl i) (by simp)
    have sti := al i (A i) spi.arch
    obtain ⟨pts, h', wr, hpts, hu, hr, _⟩ := copyArchives_cons_ok_iff.1 hp
    rw [spec_copyPts spi sti (fun h0 => by subst h0; exact hfirst rfl ps rfl)] at hpts
    cases hpts
    obtain ⟨al', g', hh⟩ := updateMany_allstate o h h' g al L c _ (i : Int) w.now (spec_pts_late spi) hu
    have fr := updateMany_frame o h h' g.placed _ (i : Int) w.now hu
    obtain ⟨al'', g'', fr', hag'⟩ := ih g' al' (c.of_hdr hh)
      (fun k' h1 h2 => (hspec k' (Nat.le_of_succ_le h1) (hlen ▸ h2)).of_hdr hh) (fun h0 => absurd h0 (Nat.succ_ne_zero i)) hr
    rw [hh] at fr'
    refine ⟨al'', g'', fr.trans fr', fun hl k hk1 hk2 => ?_⟩
    by_cases hki : k = i
    · -- archive i itself: later archives leave it alone
      subst hki
      obtain ⟨_, _, _, hag⟩ := copy_step o hl excl h h' g k (A k) spi.arch sti (F k) (C k) w.now spi.zone (V k) spi.len hu
      obtain ⟨s, _⟩ := copyArchives_behind o ls excl w k (A k) rest h' h'' (k + 1) wr g' (fr.archs ▸ spi.arch)
        (Nat.lt_succ_self k) hr
      intro j hj
      rw [s.reads spi.zone.ok.2.1]
      exact hag j hj
    · exact hag' hl k (Nat.lt_of_le_of_ne hk1 (Ne.symm hki)) (hlen ▸ hk2)

/-- **all archives of one copy**: after ⟦copyDifferentPoints⟧ the destination agrees with the
    source on every archive's window -/
theorem copyArchives_agrees (o : FOps) (hl : FLaws o) (ls : List (Option Series)) (excl : Bool) (w : Window) (L : Nat)
    (A : Nat → Arch) (F C : Nat → Nat) (V : Nat → List Val) (batches : List (List Point)) :
    ∀ (h h'' : Handle) (i : Nat) (written : List (List Point)), Good h → AllState h → Coarse h L →
      (∀ k, i ≤ k → k < i + batches.length → ArchSpec h ls w L k (A k) (F k) (C k) (V k)) →
      (i = 0 → ∀ ps, batches.head? = some ps →
        ps = (diffPoints o excl (ls.getD 0 none) (some (readSeries h (A 0) (F 0) (C 0)))).1) →
      copyArchives o ls excl w h i batches = .ok (h'', written) →
      ∀ k, i ≤ k → k < i + batches.length → Agrees o excl h'' (A k) (F k) (C k) (V k) :=
  fun _ _ _ _ g al c hspec hfirst hp => (copyArchives_run L A F C V g al c hspec hfirst hp).2.2.2 hl

theorem fetchAll_reads (ls : List (Option Series)) (w : Window) (L : Nat)
    (A : Nat → Arch) (F C : Nat → Nat) (V : Nat → List Val) (h : Handle) (al : AllState h) :
    ∀ (as : List Arch) (i : Nat), i + as.length = h.archs.length →
      (∀ k, k < h.archs.length → ArchSpec h ls w L k (A k) (F k) (C k) (V k)) →
      fetchAll h w.now w.from_ w.until' i as =
        .ok ((List.range as.length).map fun j => some (readSeries h (A (i + j)) (F (i + j)) (C (i + j)))) :=
  fun as i hi hspec => C18.fetchAll_win w A F C h al as i hi fun k hk => (hspec k hk).toWin

/-- nothing is to be written to an archive exactly when its window already agrees with the source -/
theorem diffPoints_nil_iff (hs : 0 < a.step) (hvs : vs.length = cnt) (hhi : f + a.step.toNat * cnt < 2147483648) :
    (diffPoints o excl (some ⟨f, f + a.step.toNat * cnt, a.step, vs⟩) (some (readSeries h a f cnt))).1 = [] ↔
      Agrees o excl h a f cnt vs := by
  rw [diffPoints_wanted hs hvs hhi, List.eq_nil_iff_forall_not_mem]
  have hval : ∀ j, j < cnt →
      (readSeries h a f cnt).values.getD j 0 = ringValue h a (slotAt h a 0).t (f + a.step.toNat * j) :=
    fun j hj => by simp [readSeries, hj]
  constructor
  · intro hn j hj
    rw [← hval j hj]
    exact not_differs.1 fun hd => hn _ (wanted_mem.2
      ⟨j, by omega, by simp [readSeries]; omega, rfl, hd⟩)
  · intro hag p hp
    obtain ⟨j, hj, _, _, hd⟩ := wanted_mem.1 hp
    rw [hval j (by omega)] at hd
    exact not_differs.2 (hag j (by omega)) hd

theorem agrees_of_no_diff (o : FOps) (excl : Bool) (h : Handle) (a : Arch) (hs : 0 < a.step) (f cnt : Nat)
    (vs : List Val) (hvs : vs.length = cnt) (hhi : f + a.step.toNat * cnt < 2147483648)
    (hnil : (diffPoints o excl (some ⟨f, f + a.step.toNat * cnt, a.step, vs⟩) (some (readSeries h a f cnt))).1 = []) :
    Agrees o excl h a f cnt vs :=
  (diffPoints_nil_iff hs hvs hhi).1 hnil

theorem allEmpty_getD {pl : List (List Point)} (h : allEmpty pl = true) (k : Nat) : pl.getD k [] = [] := by
  rw [List.getD_eq_getElem?_getD]
  cases hk : pl[k]? with
  | none => rfl
  | some x => simpa using List.all_eq_true.1 h x (List.mem_of_getElem? hk)

/-- how a successful ⟦copyCore⟧ ended: nothing to copy, or all archives copied and published -/
theorem copyCore_cases (o : FOps) (t : Tree) (dst : String) (hd : Handle) (srcArchs : List Arch)
    (ls : List (Option Series)) (w : Window) (excl : Bool)
    (hok : (copyCore o t dst hd srcArchs ls w excl).2.1 = .ok) :
    ∃ ld, fetchList hd w.archiveID w.from_ w.until' w.now = .ok ld ∧ layoutsEqual srcArchs hd.archs = true ∧
      rangesEqual ls ld = true ∧
      (((allEmpty (diffLists o excl ls ld).1 && allEmpty (diffLists o excl ls ld).2) = true ∧
          (copyCore o t dst hd srcArchs ls w excl).1 = t) ∨
       ∃ hd' written, copyArchives o ls excl w hd 0
            ((List.range hd.archs.length).map fun i => (diffLists o excl ls ld).1.getD i []) = .ok (hd', written) ∧
          (copyCore o t dst hd srcArchs ls w excl).1 = t.set dst hd'.view) := by
  rcases copyCore_ends o t dst hd srcArchs ls w excl with
    ⟨e, _, h⟩ | ⟨k, h⟩ | ⟨ld, hf, hl, hr, he, h⟩ | ⟨ld, hd', wr, hf, hl, hr, hc, h⟩ <;> rw [h] at hok ⊢
  · exact absurd hok Outcome.ofFault_ne_ok
  · cases hok
  · exact ⟨ld, hf, hl, hr, Or.inl ⟨he, rfl⟩⟩
  · exact ⟨ld, hf, hl, hr, Or.inr ⟨hd', wr, hc, rfl⟩⟩

/-- the batch `copyCore` prepares for the finest archive is the difference `copyArchives_run`
    asks for -/
theorem first_batch {n : Nat} {g : Nat → Option Series} (hlen : ls.length = n) (ps : List Point)
    (hps : ((List.range n).map fun i => (diffLists o excl ls ((List.range n).map g)).1.getD i []).head? = some ps) :
    ps = (diffPoints o excl (ls.getD 0 none) (g 0)).1 := by
  rw [List.head?_eq_getElem?, getElem?_range_map] at hps
  rw [← hps.2, diffLists_getD (by simp [hlen]), getD_range_map hps.1]

/-- **the core of copy / sum-copy, all archives**: on success the destination handle that is
    published agrees with the source on every archive's window -/
theorem copyCore_agrees (o : FOps) (hl : FLaws o) (t : Tree) (dst : String) (hd : Handle) (srcArchs : List Arch)
    (ls : List (Option Series)) (w : Window) (excl : Bool) (L : Nat)
    (A : Nat → Arch) (F C : Nat → Nat) (V : Nat → List Val)
    (g : Good hd) (al : AllState hd) (c : Coarse hd L) (hall : w.archiveID = -1)
    (hlen : ls.length = hd.archs.length)
    (hspec : ∀ k, k < hd.archs.length → ArchSpec hd ls w L k (A k) (F k) (C k) (V k))
    (hok : (copyCore o t dst hd srcArchs ls w excl).2.1 = .ok) :
    ∃ hd', ((copyCore o t dst hd srcArchs ls w excl).1 = t ∧ hd' = hd ∨
            (copyCore o t dst hd srcArchs ls w excl).1 = t.set dst hd'.view) ∧
      ∀ k, k < hd.archs.length → Agrees o excl hd' (A k) (F k) (C k) (V k) := by
  obtain ⟨ld, hfl, _, _, hcase⟩ := copyCore_cases o t dst hd srcArchs ls w excl hok
  rw [C18.fetchList_win al hall (fun k hk => (hspec k hk).toWin)] at hfl
  cases hfl
  rcases hcase with ⟨hempty, htree⟩ | ⟨hd', written, hca, htree⟩
  · -- nothing to copy: the destination already agrees
    refine ⟨hd, Or.inl ⟨htree, rfl⟩, fun k hk => ?_⟩
    have sp := hspec k hk
    have := allEmpty_getD (Bool.and_eq_true_iff.1 hempty).1 k
    rw [diffLists_getD (by simp [hlen]), sp.src, getD_range_map hk] at this
    exact (diffPoints_nil_iff sp.zone.ok.1 sp.len sp.zone.hi).1 this
  · -- `hca` first: it fixes the batches, in which `first_batch` finds the series read
    have hag := ((copyArchives_run L A F C V g al c (hp := hca))
      (by intro k' _ h2; rw [List.length_map, List.length_range, Nat.zero_add] at h2; exact hspec k' h2)
      (fun _ => first_batch hlen)).2.2.2 hl
    rw [List.length_map, List.length_range, Nat.zero_add] at hag
    exact ⟨hd', Or.inr htree, fun k hk => hag k (Nat.zero_le k) hk⟩

end Wsp.C08
