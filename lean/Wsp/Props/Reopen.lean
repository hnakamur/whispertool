/-
  Reopening (anchors: C05 "any other handle opening the file observes the same series as
  the live handle", C07 "a layout that Create accepts round-trips through the file").

  `Reopenable h`: the handle's view starts with the encoding of its (well-formed) header and
  is as long as the header says.  It holds of every handle `Create` returns, every update
  preserves it, and `Open` on such a view returns exactly that handle — header and view —
  so every fetch, raw read and later update of the reopened handle equals the live one's.
  With `Sync` copying the view to the disk, a handle opened after a Sync IS the synced
  handle (`open_after_sync`).
-/
import Wsp.Props.Total
namespace Wsp.Reopen
open Wsp.Handle Wsp.C14 Wsp.Total

structure Reopenable (o : FOps) (h : Handle) : Prop where
  wf : HeaderWF o h.hdr
  pre : h.view.take (16 + 12 * h.hdr.archives.length) = encHeader h.hdr
  len : h.hdr.expectedFileSize ≤ h.view.length

/-- ⟦readHeader⟧ on a view that starts with an encoded well-formed header returns it -/
theorem readHeader_encoded (o : FOps) (hd : Header) (wf : HeaderWF o hd) (view : Bytes) (ps : Nat)
    (hpre : view.take (16 + 12 * hd.archives.length) = encHeader hd)
    (hlen : 16 + 12 * hd.archives.length ≤ view.length) :
    readHeader o view ps = .ok hd := readHeader_ok_iff.2 ⟨wf, hpre, hlen⟩

theorem openBytes_ok_iff {o : FOps} {bytes : Bytes} {ps : Nat} {h : Handle} :
    openBytes o bytes ps = .ok h ↔ h.view = bytes ∧ Reopenable o h := by
  rw [openBytes_ok, readHeader_ok_iff]
  constructor
  · rintro ⟨⟨wf, pre, -⟩, rfl, hl⟩; exact ⟨rfl, wf, pre, hl⟩
  · rintro ⟨rfl, wf, pre, hl⟩
    have := expectedFileSize_eq wf.count
    unfold Header.total at this
    exact ⟨⟨wf, pre, by omega⟩, rfl, hl⟩

/-- **`Open` on a reopenable view returns that very handle** -/
theorem open_reopenable (o : FOps) (h : Handle) (r : Reopenable o h) (ps : Nat) :
    openBytes o h.view ps = .ok h := openBytes_ok_iff.2 ⟨rfl, r⟩

/-- **whatever `Open` returns can be reopened**: the bytes the handle publishes start with
    the encoding of its header -/
theorem _root_.Wsp.C14.opened_reopenable (o : FOps) (bytes : Bytes) (ps : Nat) (h : Handle)
    (ho : openBytes o bytes ps = .ok h) : Reopenable o h := (openBytes_ok_iff.1 ho).2

/-- `Open` is idempotent on what it publishes: reopening an opened handle's bytes — after
    any updates — gives the handle back -/
theorem _root_.Wsp.C14.reopen_opened (o : FOps) (bytes : Bytes) (ps ps' : Nat) (h : Handle)
    (ho : openBytes o bytes ps = .ok h) : openBytes o h.view ps' = .ok h :=
  open_reopenable o h (opened_reopenable o bytes ps h ho) ps'

theorem Reopenable.of_frame {o : FOps} {h h' : Handle} (r : Reopenable o h)
    (f : Frame (16 + 12 * h.hdr.archives.length) h h') : Reopenable o h' :=
  ⟨f.1 ▸ r.wf, by rw [f.1, f.2.2]; exact r.pre, by rw [f.1, f.2.1]; exact r.len⟩

theorem _root_.Wsp.Recreate.recreate_reopenable (o : FOps) (agg : Nat) (xff : UInt32) (lay : List (Int × Nat)) (hl : LayInRange lay)
    (old disk : Bytes) (h : Handle) (hc : recreateHandle o agg xff lay old = .ok (disk, h)) : Reopenable o h := by
  obtain ⟨hn, hle, hd, hv⟩ := recreateHandle_ok_iff.1 hc
  refine ⟨newHeader_wf hl hn, ?_, ?_⟩
  · rw [← encHeader_length, hv]; exact List.take_left
  · rw [hv, hd, List.length_append, List.length_drop, length_take_append_replicate, Nat.add_sub_cancel' hle]
    exact Nat.le_refl _

/-- **every handle `Create` returns is reopenable** -/
theorem created_reopenable (o : FOps) (agg : Nat) (xff : UInt32) (lay : List (Int × Nat)) (hl : LayInRange lay)
    (disk : Bytes) (h : Handle) (hc : createHandle o agg xff lay = .ok (disk, h)) : Reopenable o h :=
  Recreate.recreate_reopenable o agg xff lay hl [] disk h (createHandle_eq .. ▸ hc)

def WReop (o : FOps) (w : World) : Prop := ∀ h, w.h = some h → Good h ∧ Reopenable o h

/-- every operation keeps the live handle reopenable — `Open` too, whatever the file holds — given
    only that layouts passed to `Create` are in the Go ranges -/
theorem step_reopenable_all (o : FOps) (w : World) (op : LibOp) (hw : WReop o w)
    (hop : ∀ lay agg xff, op = .create lay agg xff ∨ op = .createOver lay agg xff → LayInRange lay) :
    WReop o (w.step o op).1 := by
  intro h' hh
  rcases (World.step_inv o w op).1 h' hh with hk | m
  · exact hw h' hk
  · cases m with
    | create ho hc =>
      have r := Recreate.recreate_reopenable o _ _ _ (hop _ _ _ ho) _ _ h' hc
      exact ⟨Good.of_wf r.wf, r⟩
    | open_ _ ho =>
      have r := C14.opened_reopenable o _ _ h' ho
      exact ⟨Good.of_wf r.wf, r⟩
    | upd hl hu =>
      obtain ⟨g, r⟩ := hw _ hl
      have f := updatePoint_frame o _ h' g.placed _ _ _ _ hu
      exact ⟨g.of_frame f, r.of_frame f⟩
    | updMany hl hu =>
      obtain ⟨g, r⟩ := hw _ hl
      have f := updateMany_frame o _ h' g.placed _ _ _ hu
      exact ⟨g.of_frame f, r.of_frame f⟩

def ReopOpOK : LibOp → Prop
  | .create lay _ _ => LayInRange lay
  | .createOver lay _ _ => LayInRange lay
  | .open_ => False
  | _ => True

/-- a `Create`d file stays reopenable through every update -/
theorem step_reopenable (o : FOps) (w : World) (op : LibOp) (hw : WReop o w) (hop : ReopOpOK op) :
    WReop o (w.step o op).1 :=
  step_reopenable_all o w op hw (by rintro lay agg xff (rfl | rfl) <;> exact hop)

/-- **what another handle sees after `Sync`**: with a reopenable live handle `h`, after
    `sync` the disk holds `h.view`, and opening it yields `h` itself — the same header and
    the same bytes, hence the same result for every fetch, raw read and update -/
theorem open_after_sync (o : FOps) (w : World) (h : Handle) (hh : w.h = some h) (r : Reopenable o h) :
    (w.step o .sync).1.disk = some h.view ∧
    (((w.step o .sync).1.step o .drop).1.step o .open_) = (⟨some h.view, some h⟩, .ok) := by
  simp only [World.step, hh]
  refine ⟨trivial, ?_⟩
  rw [open_reopenable o h r]

end Wsp.Reopen

/-! ### ⟦Create⟧ with an open flag that allows an existing file (no O_EXCL, no O_TRUNC)

The file is cut or extended to the size of the new layout at once — what it held inside that size
stays — and the header goes to the buffer.  Whatever the old file was, the new file has exactly the
length of its layout (C06), the handle is as good as a freshly created one (`recreate_good`,
`recreate_reopenable`), and after `Sync` it reopens as itself. -/

namespace Wsp.Recreate
open Wsp.Handle Wsp.C14 Wsp.Total Wsp.Reopen

/-- a re-created file is a created file with other bytes behind the header -/
theorem recreate_spec (o : FOps) (agg : Nat) (xff : UInt32) (lay : List (Int × Nat)) (old disk : Bytes) (h : Handle)
    (hc : recreateHandle o agg xff lay old = .ok (disk, h)) :
    ∃ d0 h0, createHandle o agg xff lay = .ok (d0, h0) ∧ h.hdr = h0.hdr ∧
      disk.length = h.hdr.expectedFileSize ∧ h.view.length = disk.length ∧
      h.view.take (encHeader h.hdr).length = encHeader h.hdr ∧
      disk = old.take h.hdr.expectedFileSize ++ List.replicate (h.hdr.expectedFileSize - old.length) 0 := by
  obtain ⟨hn, hl, hd, hv⟩ := recreateHandle_ok_iff.1 hc
  have hdl : disk.length = h.hdr.expectedFileSize := by rw [hd, length_take_append_replicate]
  exact ⟨_, ⟨h.hdr, encHeader h.hdr ++ List.replicate (h.hdr.expectedFileSize - (encHeader h.hdr).length) 0⟩,
    createHandle_ok_iff.2 ⟨hn, hl, rfl, rfl⟩, rfl, hdl,
    by rw [hv, List.length_append, List.length_drop, Nat.add_sub_cancel' (hdl ▸ hl)], by rw [hv, List.take_left], hd⟩

/-- **C06, length**: a file re-created in place has exactly the length of its new layout,
    whatever it held before -/
theorem recreate_length (o : FOps) (agg : Nat) (xff : UInt32) (lay : List (Int × Nat))
    (old disk : Bytes) (h : Handle) (hc : recreateHandle o agg xff lay old = .ok (disk, h)) :
    disk.length = h.hdr.expectedFileSize ∧ h.view.length = h.hdr.expectedFileSize := by
  obtain ⟨_, _, _, _, h1, h2, _⟩ := recreate_spec o agg xff lay old disk h hc
  exact ⟨h1, h2.trans h1⟩

/-- what the old file held behind the header and inside the new size is still there -/
theorem recreate_keeps_old_bytes (o : FOps) (agg : Nat) (xff : UInt32) (lay : List (Int × Nat))
    (old disk : Bytes) (h : Handle) (hc : recreateHandle o agg xff lay old = .ok (disk, h)) :
    disk.take (min old.length h.hdr.expectedFileSize) = old.take h.hdr.expectedFileSize := by
  obtain ⟨_, _, _, _, _, _, _, hd⟩ := recreate_spec o agg xff lay old disk h hc
  rw [hd, Nat.min_comm, ← List.length_take]
  exact List.take_left

/-- **re-create, Sync, reopen**: the state machine's `createOver` on an existing file gives the
    re-created handle at once (the file already has its new length), and after `Sync` another
    `Open` sees exactly that handle -/
theorem createOver_sync_reopen (o : FOps) (w : World) (lay : List (Int × Nat)) (agg : Nat) (xff : UInt32)
    (hl : LayInRange lay) (d disk : Bytes) (h : Handle) (hd : w.disk = some d)
    (hc : recreateHandle o agg xff lay d = .ok (disk, h)) :
    (w.step o (.createOver lay agg xff)).1 = ⟨some disk, some h⟩ ∧
    disk.length = h.hdr.expectedFileSize ∧
    ((((⟨some disk, some h⟩ : World).step o .sync).1.step o .drop).1.step o .open_) = (⟨some h.view, some h⟩, .ok) := by
  refine ⟨?_, (recreate_length o agg xff lay d disk h hc).1, ?_⟩
  · simp only [World.step, hd, hc]
  · exact (open_after_sync o ⟨some disk, some h⟩ h rfl (recreate_reopenable o agg xff lay hl d disk h hc)).2

end Wsp.Recreate
