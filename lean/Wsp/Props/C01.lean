/-
  C01  Ring storage: a fetch returns the last value written to each live slot.

  For every archive geometry (any N ≥ 1, any step), every base interval and every wrap-around
  position, inside the zone of DESIGN §3.2:
  * `fetch_refines_ring` — the value a fetch returns for interval `I` is that of the one physical
    slot `slotIdx I` if that slot is stamped with exactly `I`, NaN otherwise (never a stale lap,
    another slot or another archive: `no_foreign_value`);
  * `write_lands` — a write of `(I, v)` replaces exactly the slot `slotIdx I` of its archive
    (slot 0, which becomes the base, on a never-written one) and no other slot of any archive;
  * `slot_congruent` / `base_change_keeps_slots` — two intervals share a slot iff they are
    congruent modulo N·S, and overwriting slot 0 (which moves the base) moves no interval's slot.
  So a slot holds the most recent write among the intervals congruent to it, and a fetch shows
  it iff it is the interval asked for; `C01History.lean` composes this over whole histories.
  What is not yet proved is listed in obligations.json (partial).
-/
import Wsp.Proofs.Slots
import Wsp.Props.C04
namespace Wsp.C01
open Wsp.Handle Wsp.C14

/-- what a fetch may return for interval `I`: the value in the slot of `I` if that slot
    holds exactly `I`, else NaN -/
def ringValue (h : Handle) (a : Arch) (base I : Nat) : Val :=
  if (slotAt h a (slotIdx a base I)).t = I then (slotAt h a (slotIdx a base I)).v else nanBits

/-- the slot of the `i`-th interval of a window is `i` steps further round the ring -/
theorem slotIdx_shift {a : Arch} {base fI uI : Nat} (z : RingZone a base fI uI) (i : Nat)
    (hi : i < winCount a fI uI) :
    slotIdx a base (fI + a.step.toNat * i) = (slotIdx a base fI + i) % a.n := by
  cases i with
  | zero => simp; exact (Nat.mod_eq_of_lt (slotIdx_lt z.hn base fI)).symm
  | succ i =>
    obtain ⟨z', hw⟩ := RingZone.window (i + 1) z.hs z.hn z.hr z.hb z.hal1 (Nat.succ_pos i)
      (Nat.le_trans (Nat.le_of_lt hi) z.count_range.2.1) (Nat.lt_trans (z.instant_lt hi) z.hu)
    rw [z'.idx_until, hw]

/-- **a fetch reads the ring**: inside the zone, on an archive that has been written
    (base ≠ 0), the planned window comes back with, for each of its intervals, the value of
    that interval's slot if the slot is stamped with exactly that interval, NaN otherwise. -/
theorem fetch_refines_ring (h : Handle) (p : FetchPlan) (base : Nat)
    (z : RingZone p.a base p.fromI p.untilI)
    (hbase : h.baseInterval p.a = .ok base) (hb0 : base ≠ 0)
    (hsz : p.a.offset + 12 * p.a.n ≤ h.view.length) (hfit : p.a.offset + 12 * p.a.n ≤ 4294967295) :
    h.fetchExec p = .ok ⟨p.fromI, p.untilI, p.a.step,
      (List.range (winCount p.a p.fromI p.untilI)).map fun i =>
        ringValue h p.a base (p.fromI + p.a.step.toNat * i)⟩ := by
  unfold fetchExec
  simp only [hbase, hb0, if_false]
  rw [fetchRawPoints_ring h p.a base p.fromI p.untilI z hbase hsz hfit]
  refine congrArg (fun vs => (.ok ⟨p.fromI, p.untilI, p.a.step, vs⟩ : R Series)) ?_
  have hclear := clearOldPoints_ring p.a.step.toNat (Int.lt_toNat.2 z.hs)
    (fun i => slotAt h p.a ((slotIdx p.a base p.fromI + i) % p.a.n))
    (winCount p.a p.fromI p.untilI) 0 p.fromI (z.end_eq.symm ▸ Nat.lt_trans z.hu (by decide))
  rw [Int.toNat_of_nonneg (Int.le_of_lt z.hs), ← List.range_eq_range'] at hclear
  unfold ringIdx
  rw [List.map_map]
  refine hclear.trans (List.map_congr_left fun i hi => ?_)
  unfold ringValue
  rw [Nat.sub_zero, slotIdx_shift z i (List.mem_range.1 hi)]

/-- **no foreign value**: a value other than the NaN marker comes from the slot of exactly
    that interval of exactly that archive, stamped with exactly that interval. -/
theorem no_foreign_value (h : Handle) (a : Arch) (base I : Nat) (hv : ringValue h a base I ≠ nanBits) :
    (slotAt h a (slotIdx a base I)).t = I ∧ ringValue h a base I = (slotAt h a (slotIdx a base I)).v := by
  unfold ringValue at hv ⊢
  by_cases ht : (slotAt h a (slotIdx a base I)).t = I
  · simp [ht]
  · simp [ht] at hv

theorem ringValue_slot {h : Handle} {a : Arch} {base I : Nat} (hv : ringValue h a base I ≠ nanBits) :
    slotAt h a (slotIdx a base I) = ⟨I, ringValue h a base I⟩ := by
  obtain ⟨ht, hval⟩ := no_foreign_value h a base I hv
  rw [hval]
  generalize slotAt h a (slotIdx a base I) = s at ht ⊢
  subst ht; rfl

/-- a never-written archive (base interval 0) reads as all NaN -/
theorem fetch_never_written (h : Handle) (p : FetchPlan) (hbase : h.baseInterval p.a = .ok 0) :
    ∃ n, h.fetchExec p = .ok ⟨p.fromI, p.untilI, p.a.step, List.replicate n nanBits⟩ := by
  unfold fetchExec
  simp only [hbase, if_true]
  exact ⟨_, rfl⟩

/-- ⟦getPointOffset⟧ is the offset of slot `slotIdx I`, of slot 0 on a never-written archive -/
theorem getPointOffset_slot {h : Handle} {a : Arch} (I : Nat) {base : Nat} (hn : 0 < a.n)
    (hfit : a.offset + 12 * a.n ≤ 4294967295) (hbase : h.baseInterval a = .ok base) :
    h.getPointOffset I a = .ok (a.offset + 12 * (if base = 0 then 0 else slotIdx a base I)) := by
  unfold getPointOffset
  simp only [hbase]
  by_cases hb : base = 0
  · simp [hb]
  · simp only [hb, if_false, pointOffsetAt_slot hn hfit]

/-- **a write lands in the slot of its interval and nowhere else**: the offset computed by
    ⟦getPointOffset⟧ is that of slot `slotIdx I` (slot 0 when the archive was never
    written), and writing there replaces that slot only. -/
theorem write_lands (h h' : Handle) (a : Arch) (I : Nat) (v : Val) (base off : Nat)
    (hI : I < 4294967296) (hn : 0 < a.n) (hfit : a.offset + 12 * a.n ≤ 4294967295)
    (hbase : h.baseInterval a = .ok base)
    (hoff : h.getPointOffset I a = .ok off) (hput : h.putPointAt ⟨I, v⟩ off = .ok h') :
    let i := if base = 0 then 0 else slotIdx a base I
    off = a.offset + 12 * i ∧ i < a.n ∧ slotAt h' a i = ⟨I, v⟩ ∧
    (∀ (b : Arch) (j : Nat), (b.offset + 12 * j + 12 ≤ a.offset + 12 * i ∨ a.offset + 12 * i + 12 ≤ b.offset + 12 * j) →
      slotAt h' b j = slotAt h b j) := by
  intro i
  have hoffeq : off = a.offset + 12 * i :=
    (Except.ok.inj ((getPointOffset_slot I hn hfit hbase).symm.trans hoff)).symm
  have hi : i < a.n := by
    simp only [i]; split
    · exact hn
    · exact slotIdx_lt hn base I
  rw [hoffeq] at hput
  obtain ⟨h1, h2, _⟩ := putPointAt_slots h h' ⟨I, v⟩ hI a i hput
  exact ⟨hoffeq, hi, h1, h2⟩

/-- two aligned intervals share a slot exactly when they are congruent modulo N·S -/
theorem slot_congruent (a : Arch) (base I J : Nat) (hs : 0 < a.step) (hn : 0 < a.n)
    (hb : base < 2147483648) (hI : I < 2147483648) (hJ : J < 2147483648)
    (hal1 : a.step ∣ ((I : Int) - base)) (hal2 : a.step ∣ ((J : Int) - base)) :
    slotIdx a base I = slotIdx a base J ↔ (a.step * (a.n : Int)) ∣ ((I : Int) - (J : Int)) := by
  obtain ⟨qi, hqi⟩ := hal1
  obtain ⟨qj, hqj⟩ := hal2
  unfold slotIdx
  rw [← Int.natCast_inj, Int.toNat_of_nonneg (pointIndex_range a hn base I).1,
    Int.toNat_of_nonneg (pointIndex_range a hn base J).1,
    pointIndex_of_mul hs hn hb hI hqi, pointIndex_of_mul hs hn hb hJ hqj,
    show (I : Int) - J = a.step * (qi - qj) by rw [Int.mul_sub]; omega,
    Int.emod_eq_emod_iff_emod_sub_eq_zero, ← Int.dvd_iff_emod_eq_zero]
  exact ⟨Int.mul_dvd_mul_left _, Int.dvd_of_mul_dvd_mul_left (Int.ne_of_gt hs)⟩

/-- overwriting slot 0 moves the base by a multiple of N·S, which moves no interval's slot -/
theorem base_change_keeps_slots (a : Arch) (base base' J : Nat) (hs : 0 < a.step) (hn : 0 < a.n)
    (hb : base < 2147483648) (hb' : base' < 2147483648) (hJ : J < 2147483648)
    (hcong : (a.step * (a.n : Int)) ∣ ((base' : Int) - (base : Int)))
    (hal : a.step ∣ ((J : Int) - base)) :
    slotIdx a base' J = slotIdx a base J := by
  obtain ⟨m, hm⟩ := hcong
  obtain ⟨q, hq⟩ := hal
  unfold slotIdx
  rw [pointIndex_of_mul hs hn hb hJ hq,
    pointIndex_of_mul hs hn hb' hJ (q := q - (a.n : Int) * m) (by rw [Int.mul_sub, ← Int.mul_assoc]; omega),
    Int.sub_mul_emod_self_left]

/-! non-vacuity: a concrete in-zone window on a ring of three slots -/
example : RingZone ⟨28, 10, 3⟩ 1000 990 1020 := by
  refine ⟨by decide, by decide, by decide, by decide, by decide, by decide, by decide, ?_, ?_⟩
  · exact ⟨-1, by decide⟩
  · exact ⟨3, by decide⟩

end Wsp.C01

/-! ### C04/C01: windows agree with each other

What a fetch returns for an interval does not depend on the window it was asked in: each
value is the ring read at that interval (`C01.fetch_refines_ring`). -/
namespace Wsp.C04
open Wsp.Handle Wsp.C01

theorem fetch_value_at {h : Handle} {p : FetchPlan} {base : Nat}
    (z : RingZone p.a base p.fromI p.untilI)
    (hbase : h.baseInterval p.a = .ok base) (hb0 : base ≠ 0)
    (hsz : p.a.offset + 12 * p.a.n ≤ h.view.length) (hfit : p.a.offset + 12 * p.a.n ≤ 4294967295)
    {s : Series} (hs : h.fetchExec p = .ok s) {i : Nat} (hi : i < winCount p.a p.fromI p.untilI) :
    s.values[i]? = some (ringValue h p.a base (p.fromI + p.a.step.toNat * i)) := by
  rw [fetch_refines_ring h p base z hbase hb0 hsz hfit] at hs
  cases hs
  simp only [List.getElem?_map, List.getElem?_range hi, Option.map_some]

/-- **overlapping windows agree**: two fetches of one archive of one file, each inside the
    zone, return the same value at every interval common to both windows -/
theorem windows_agree (h : Handle) (p q : FetchPlan) (base : Nat) (ha : q.a = p.a)
    (zp : RingZone p.a base p.fromI p.untilI) (zq : RingZone q.a base q.fromI q.untilI)
    (hbase : h.baseInterval p.a = .ok base) (hb0 : base ≠ 0)
    (hsz : p.a.offset + 12 * p.a.n ≤ h.view.length) (hfit : p.a.offset + 12 * p.a.n ≤ 4294967295)
    (s1 s2 : Series) (h1 : h.fetchExec p = .ok s1) (h2 : h.fetchExec q = .ok s2)
    (i j : Nat) (hi : i < winCount p.a p.fromI p.untilI) (hj : j < winCount q.a q.fromI q.untilI)
    (hsame : p.fromI + p.a.step.toNat * i = q.fromI + q.a.step.toNat * j) :
    s1.values[i]? = s2.values[j]? := by
  rw [fetch_value_at zp hbase hb0 hsz hfit h1 hi,
    fetch_value_at zq (ha ▸ hbase) hb0 (ha ▸ hsz) (ha ▸ hfit) h2 hj, ← hsame, ha]

end Wsp.C04

/-! ### C18, the ring clause

Every known (non-NaN) value a fetch shows is a raw slot of that archive, stamped with exactly
the time the view prints for it — so `view` never shows a point that `view-raw` over the same
archive does not list. -/
namespace Wsp.C18
open Wsp.Handle Wsp.C14 Wsp.C01

/-- ⟦GetAllRawUnsortedPoints⟧ of an archive in the list returns all its slots, in slot order -/
theorem raw_is_all_slots (h : Handle) (k : Nat) (a : Arch) (ha : h.archs[k]? = some a)
    (hsz : a.offset + 12 * a.n ≤ h.view.length) :
    h.rawPoints (k : Int) = .ok ((List.range a.n).map (slotAt h a)) := by
  unfold rawPoints
  have : ¬ ((k : Int) < 0) := by omega
  simp only [this, if_false, Int.toNat_natCast, ha]
  exact readPoints_slots h a (List.range a.n) fun i hi => by have := List.mem_range.1 hi; omega

/-- **view ⊆ view-raw**: inside the zone, each non-NaN value of the fetched series, together
    with the time the series assigns to its position, is one of the archive's raw slots -/
theorem view_subset_raw (h : Handle) (p : FetchPlan) (base : Nat)
    (z : RingZone p.a base p.fromI p.untilI)
    (hbase : h.baseInterval p.a = .ok base) (hb0 : base ≠ 0)
    (hsz : p.a.offset + 12 * p.a.n ≤ h.view.length) (hfit : p.a.offset + 12 * p.a.n ≤ 4294967295)
    (s : Series) (hs : h.fetchExec p = .ok s) :
    ∀ i (hi : i < s.values.length), s.values[i] ≠ nanBits →
      (⟨p.fromI + p.a.step.toNat * i, s.values[i]⟩ : Point) ∈ (List.range p.a.n).map (slotAt h p.a) := by
  rw [fetch_refines_ring h p base z hbase hb0 hsz hfit] at hs
  cases hs
  intro i _ hv
  simp only [List.getElem_map, List.getElem_range] at hv ⊢
  exact List.mem_map.mpr ⟨_, List.mem_range.mpr (slotIdx_lt z.hn base _), ringValue_slot hv⟩

end Wsp.C18
