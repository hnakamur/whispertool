/-
  C20  generate produces a complete, self-consistent file with the requested layout.

  Proved of the command model with the random points as a universally quantified
  parameter: an existing file is never overwritten; the new file has exactly the header
  `NewHeader` makes for the requested layout, method and xFilesFactor, whatever points are
  written (`layout_as_requested`, by the write frame, `updateMany_frame`); without fill every archive's
  base interval is 0, so every fetch of every archive returns NaN only (`nofill_empty`).
  The value clauses (every slot of every retention holds `0 ≤ v ≤ max·S_k/S_0`; a coarser
  slot fully covered by retained finer slots equals their sum) are theorems about the points
  the model of ⟦randomPointsList⟧ generates (C20Values: `generated_values`, `values_bounded`),
  not about the slots of the file; of the file the real command wrote they are decided on
  every run by the executable specification `Spec.genCheck`.
-/
import Wsp.Props.C01
import Wsp.Props.C07
import Wsp.Model.Cmd
namespace Wsp.C20
open Wsp.Cmd Wsp.Handle Wsp.C14

/-- an existing file is refused, and left as it is -/
theorem refuses_existing (o : FOps) (t : Tree) (dst : String) (c : CopyOpts) (pl : Option (List (List Point)))
    (now : Nat) (b : Bytes) (he : t.get dst = some b) :
    generate o t dst c pl now = (t, .err .exists_) := by
  simp [generate, he]

/-- ⟦updateFileDataWithPointsList⟧, for any fact about one batch update -/
theorem updateAll_post {o : FOps} {E : Fault → Prop} {P : Handle → Prop} {now : Nat}
    (step : ∀ {h : Handle} (ps : List Point) (i : Nat), P h → Post E P (h.updateMany o ps (i : Int) now)) :
    ∀ (pl : List (List Point)) (h : Handle) (i : Nat), P h → Post E P (updateAll o h now i pl)
  | [], _, _, hP => hP
  | ps :: rest, h, i, hP => by
    have hs := step ps i hP
    simp only [updateAll]
    cases hu : h.updateMany o ps (i : Int) now with
    | error e => exact hs.of_error hu
    | ok h' => exact updateAll_post step rest h' (i + 1) (hs.of_ok hu)

theorem updateAll_frame (o : FOps) {H total : Nat} (now : Nat) (pl : List (List Point)) :
    ∀ (h h' : Handle) (i : Nat), Placed h H total → updateAll o h now i pl = .ok h' → Frame H h h' :=
  fun h _ i pl' hp => (updateAll_post (P := Frame H h)
    (fun ps i f => .of_forall fun hm hu => f.trans (updateMany_frame o _ hm (pl'.of_frame f) ps i now hu))
    pl h i (Frame.refl H h)).of_ok hp

/-- the header of what `NewHeader` accepts is valid in the sense the write frame needs -/
theorem created_is_valid (o : FOps) (agg : Nat) (xff : UInt32) (lay : List (Int × Nat)) (disk : Bytes) (h : Handle)
    (hc : createHandle o agg xff lay = .ok (disk, h)) :
    validateArchs h.hdr.archives = true ∧ h.hdr.archives = fillOffsets (lay.map fun (s, n) => ⟨0, s, n⟩) ∧
    h.hdr.agg = agg ∧ h.hdr.xff = xff :=
  (C07.newHeader_accepts o agg xff lay h.hdr ((createHandle_ok_iff ..).1 hc).1).2.2

/-- **layout as requested**: whatever random points are written, the file that results has
    the header of the requested layout, method and xFilesFactor, and its final length -/
theorem layout_as_requested (o : FOps) (t : Tree) (dst : String) (c : CopyOpts) (pl : List (List Point)) (now : Nat)
    (disk : Bytes) (h h' : Handle) (hmiss : t.get dst = none)
    (hc : createHandle o c.agg c.xff c.lay = .ok (disk, h))
    (hr : ∀ a ∈ h.hdr.archives, ArchWF a)
    (hu : updateAll o h now 0 pl = .ok h') :
    generate o t dst c (some pl) now = (t.set dst h'.view, .ok) ∧
    h'.hdr = h.hdr ∧ h'.view.length = h.view.length ∧ h'.hdr.agg = c.agg ∧ h'.hdr.xff = c.xff ∧
    h'.hdr.archives = fillOffsets (c.lay.map fun (s, n) => ⟨0, s, n⟩) := by
  have hv := created_is_valid o c.agg c.xff c.lay disk h hc
  have pl' := placed_of_valid h hv.1 hr
  have fr := updateAll_frame o now pl h h' 0 pl' hu
  refine ⟨by simp [generate, hmiss, hc, hu], fr.1, fr.2.1, ?_⟩
  rw [fr.1]
  exact ⟨hv.2.2.1, hv.2.2.2, hv.2.1⟩

/-- the created view is the header followed by zeros -/
theorem created_view (o : FOps) (agg : Nat) (xff : UInt32) (lay : List (Int × Nat)) (disk : Bytes) (h : Handle)
    (hc : createHandle o agg xff lay = .ok (disk, h)) :
    h.view = encHeader h.hdr ++ List.replicate (h.hdr.expectedFileSize - (encHeader h.hdr).length) 0 :=
  ((createHandle_ok_iff ..).1 hc).2.2.2

theorem de32_zeros (n : Nat) : de32 (List.replicate n 0) = 0 := by
  match n with
  | 0 => rfl
  | 1 => rfl
  | 2 => rfl
  | 3 => rfl
  | n + 4 => simp [List.replicate_succ, de32]

/-- **without fill every slot is empty**: every archive of a freshly created file has base
    interval 0, hence every fetch of every archive returns NaN only -/
theorem nofill_empty (o : FOps) (agg : Nat) (xff : UInt32) (lay : List (Int × Nat)) (disk : Bytes) (h : Handle)
    (hc : createHandle o agg xff lay = .ok (disk, h)) (a : Arch)
    (hlo : (encHeader h.hdr).length ≤ a.offset) (hhi : a.offset + 4 ≤ h.view.length) :
    h.baseInterval a = .ok 0 ∧
    ∀ p : FetchPlan, p.a = a → ∃ n, h.fetchExec p = .ok ⟨p.fromI, p.untilI, p.a.step, List.replicate n nanBits⟩ := by
  have hb : h.baseInterval a = .ok 0 := by
    unfold baseInterval readAt
    rw [if_neg (Nat.not_lt.2 hhi)]
    show Except.ok (de32 _) = _
    rw [de32_take (Nat.le_refl 4), created_view o agg xff lay disk h hc, List.drop_append,
      List.drop_eq_nil_of_le hlo, List.nil_append, List.drop_replicate, de32_zeros]
  refine ⟨hb, ?_⟩
  rintro p rfl
  exact C01.fetch_never_written h p hb

end Wsp.C20
