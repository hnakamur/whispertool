/-
  C11 under plain conditions: the files of an item and the destination all exist, have the
  same archive list and satisfy the invariant of files whispertool writes; the clock is inside
  the zone of every archive and the requested window reaches every archive.  Then `sum-copy`
  (all archives) followed by `sum-diff` of the same item and destination over the same window
  at the same clock reports nothing.
-/
import Wsp.Props.C08Plain
import Wsp.Props.C10
namespace Wsp.C11
open Wsp.Total Wsp.Cmd Wsp.Inv Wsp.C18 Wsp.C08

/-- **`sum-copy`, then `sum-diff`, command to command** (mirrors `copyOne_then_diffOne_clean`) -/
theorem sumCopy_then_sumDiff_clean (o : FOps) (hl : FLaws o) (t : Tree) (files : List String) (dst : String) (c : CopyOpts)
    (w : Window) (L : Nat) (A : Nat → Arch) (F C : Nat → Nat) (V : Nat → List Val)
    (hlay : LayInRange c.lay) (hall : w.archiveID = -1) (hne : dst ∉ files)
    (hinv : ∀ t1 hd hs ls, openOrCreate o t dst c = .ok (t1, hd) → sumFiles o t1 files w = .ok (hs, ls) →
      Good hd ∧ AllState hd ∧ Coarse hd L ∧ ls.length = hd.archs.length ∧
      ∀ k, k < hd.archs.length → ArchSpec hd ls w L k (A k) (F k) (C k) (V k))
    (hok : (sumCopy o t files dst c w).2.1 = .ok) :
    sumDiff o (sumCopy o t files dst c w).1 files dst w = (.ok, []) := by
  rw [sumCopy_with] at hok ⊢
  exact copyWith_then_clean (rd := fun t => sumFiles o t files w) hl false L A F C V hlay hall
    (sumFiles_blind hne)
    (fun t1 hd hs ls hoc hrs => (hinv t1 hd hs ls hoc hrs).2) hok

theorem rangesEqual_reads (h1 h2 : Handle) (A : Nat → Arch) (F C : Nat → Nat) (n : Nat) :
    rangesEqual ((List.range n).map fun j => some (readSeries h1 (A j) (F j) (C j)))
      ((List.range n).map fun j => some (readSeries h2 (A j) (F j) (C j))) = true := by
  apply rangesEqual_of_getD (by simp)
  intro k hk
  rw [List.length_map, List.length_range] at hk
  rw [getD_range_map hk, getD_range_map hk]
  simp only [sFrom, sUntil, sStep, readSeries, and_self]

/-- what ⟦sumWhisperFileLocal⟧ reads, file by file, when every file is like the destination -/
theorem readAll_win (o : FOps) (t : Tree) (w : Window) (A : Nat → Arch) (F C : Nat → Nat) (n : Nat)
    (B : String → Bytes) (H : String → Handle) (hall : w.archiveID = -1) :
    ∀ (files : List String),
      (∀ f ∈ files, t.get f = some (B f) ∧ openBytes o (B f) = .ok (H f) ∧ AllState (H f) ∧ (H f).archs.length = n ∧
        ∀ k, k < n → WinSpec (H f) w k (A k) (F k) (C k)) →
      sumFiles.readAll o t w files =
        .ok (files.map fun f => ((H f).hdr, (List.range n).map fun j => some (readSeries (H f) (A j) (F j) (C j)))) := by
  intro files hf
  rw [readAll_eq o t w, collect_ok_iff]
  refine ⟨by simp, ?_⟩
  intro j f r hfj hr
  obtain ⟨hg, ho, al, hn, hsp⟩ := hf f (List.mem_of_getElem? hfj)
  rw [List.getElem?_map, hfj, Option.map_some, Option.some.injEq] at hr
  rw [← hr, ← hn]
  exact readFile_win o t f (B f) (H f) w A F C hg ho al hall (by rw [hn]; exact hsp)

/-- the sum an item's files give when every file reads through the same window specification -/
theorem sumFiles_win (o : FOps) (t : Tree) (w : Window) (A : Nat → Arch) (F C : Nat → Nat) (n : Nat)
    (B : String → Bytes) (H : String → Handle) (hall : w.archiveID = -1)
    (f0 : String) (fs : List String) (archs : List Arch)
    (hf : ∀ f ∈ f0 :: fs, t.get f = some (B f) ∧ openBytes o (B f) = .ok (H f) ∧ AllState (H f) ∧
      (H f).archs = archs ∧ ∀ k, k < n → WinSpec (H f) w k (A k) (F k) (C k))
    (hn : archs.length = n) :
    sumFiles o t (f0 :: fs) w = .ok ((H f0).hdr,
      sumSeries o n ((f0 :: fs).map fun f => (List.range n).map fun j => some (readSeries (H f) (A j) (F j) (C j)))) := by
  have hra := readAll_win o t w A F C n B H hall (f0 :: fs) fun f h =>
    let ⟨a, b, c, d, e⟩ := hf f h
    ⟨a, b, c, d ▸ hn, e⟩
  have harch : ∀ f ∈ f0 :: fs, (H f).hdr.archives = archs := fun f hm => (hf f hm).2.2.2.1
  have hlay : ∀ f ∈ fs, layoutsEqual archs (H f).hdr.archives = true := fun f hm => by
    rw [harch f (by simp [hm])]; exact layoutsEqual_refl archs
  rw [sumFiles_of_readAll hra]
  simp only [List.all_map, Function.comp_def, List.all_eq_true.2 hlay,
    List.all_eq_true.2 fun f _ => rangesEqual_reads (H f0) (H f) A F C n, Bool.not_true, Bool.false_eq_true, if_false,
    harch f0 (by simp), hn, List.map_map]
  rfl

theorem sumSeries_getD {o : FOps} {n k : Nat} {l0 : List (Option Series)} {rest : List (List (Option Series))}
    (hk : k < n) :
    (sumSeries o n (l0 :: rest)).getD k none =
      some ⟨sFrom (l0.getD k none), sUntil (l0.getD k none), sStep (l0.getD k none),
        sumColumns o ((l0 :: rest).map fun l => sValues (l.getD k none))⟩ := by
  simp only [sumSeries, getD_range_map hk]

theorem sumcopy_then_sumdiff_plain (o : FOps) (hl : FLaws o) (t : Tree) (f0 : String) (fs : List String) (dst : String)
    (c : CopyOpts) (w : Window) (B : String → Bytes) (H : String → Handle) (bd : Bytes) (hd : Handle) (L : Nat)
    (hlay : LayInRange c.lay) (hnew : ∃ x, newHeader o c.agg c.xff c.lay = .ok x)
    (hall : w.archiveID = -1) (hne : dst ∉ f0 :: fs)
    (hfiles : ∀ f ∈ f0 :: fs, t.get f = some (B f) ∧ openBytes o (B f) = .ok (H f) ∧ AllState (H f) ∧
      (H f).archs = hd.archs)
    (hgd : t.get dst = some bd) (hod : openBytes o bd = .ok hd) (ald : AllState hd) (co : Coarse hd L)
    (hfu : w.from_ ≤ w.until') (hfn : w.from_ ≤ w.now)
    (hz : ∀ a ∈ hd.archs, ¬ w.until' < tsAdd w.now (- a.maxRetention) ∧ a.step * (a.n : Int) ≤ w.now ∧
      (w.now : Int) + 2 * a.step < 2147483648 ∧ (L : Int) + a.step * (a.n : Int) ≤ w.now)
    (hok : (sumCopy o t (f0 :: fs) dst c w).2.1 = .ok) :
    sumDiff o (sumCopy o t (f0 :: fs) dst c w).1 (f0 :: fs) dst w = (.ok, []) := by
  rw [sumCopy_with] at hok ⊢
  apply copyWith_then_clean_plain hl false hlay hall (sumFiles_blind hne) (openOrCreate_existing hnew hgd hod) ald co
    hfu hfn hz ?_ hok
  intro A F C hspecD
  have hsum := sumFiles_win o t w A F C hd.archs.length B H hall f0 fs hd.archs
    (fun f hf =>
      let ⟨a, b, c', d⟩ := hfiles f hf
      ⟨a, b, c', d, fun k hk => winSpec_of_archs (hspecD k hk) d⟩) rfl
  refine ⟨_, _, hsum, by simp only [List.map_cons, sumSeries, List.length_map, List.length_range], fun k hk => ?_⟩
  -- the k-th summed series has the window's origin, end and step, and the columns' length
  rw [List.map_cons, sumSeries_getD hk, getD_range_map hk]
  refine ⟨_, rfl, C10.sumColumns_length o (C k) _ (List.cons_ne_nil _ _) ?_⟩
  simp only [List.map_cons, List.map_map, List.forall_mem_cons, List.forall_mem_map, Function.comp,
    getD_range_map hk, sValues, readSeries, List.length_map, List.length_range, implies_true, and_self]

end Wsp.C11
