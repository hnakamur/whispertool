/-
  C16  Commands fail loudly: no panic and no silent success.

  Proved of the command models: a text output that cannot be opened is an error and the
  command body does not run (repaired); a missing source is `notExist` for view and view-raw
  and never a success for copy (`sum` only for the empty list of files, nothing for sum-copy);
  a layout mismatch is `mismatch` for `copyCore`; an archive selection out of range is an error
  of `fetchList`.  That no command ends in a panic is proved in C16Total / C16Write /
  C16Glob (`C16T.view_total`, `viewRaw_total`, `diffOne_total`, `sum_total`, `sumDiff_total`,
  `copyOne_total`, `sumCopy_total`, `generate_total` and the four `*Many_total`), with the clock
  past every file's retention and before 2038 (view-raw and generate need no clock); outside that zone, and for I/O faults, it is
  asserted on the real code on every run — a panic, a file left locked or a success with an
  unopenable text-out is a violation even when the model agrees.
-/
import Wsp.Props.C08
namespace Wsp.C16
open Wsp.Cmd

/-- where the text output goes -/
inductive TextOut
  | none | stdout | file (openable : Bool)

/-- ⟦withTextOutWriter⟧ (repaired) -/
def withTextOut (to : TextOut) (run : Unit → Outcome) : Outcome :=
  match to with
  | .file false => .err .other
  | _ => run ()

theorem unopenable_textout_is_error (run : Unit → Outcome) : withTextOut (.file false) run ≠ .ok := by
  simp [withTextOut]

theorem openable_textout_runs (to : TextOut) (h : to ≠ .file false) (run : Unit → Outcome) :
    withTextOut to run = run () := by
  cases to with
  | none => rfl
  | stdout => rfl
  | file b => cases b <;> simp_all [withTextOut]

theorem view_missing_source (o : FOps) (t : Tree) (p : String) (w : Window) (hm : t.get p = none) :
    (view o t p w).1 = .err .notExist := by
  simp [view, readFile_missing hm, Outcome.ofFault]

theorem viewRaw_missing_source (o : FOps) (t : Tree) (p : String) (w : Window) (s : Bool) (hm : t.get p = none) :
    (viewRaw o t p w s).1 = .err .notExist := by
  simp [viewRaw, hm]

theorem copy_missing_source (o : FOps) (t : Tree) (src dst : String) (c : CopyOpts) (w : Window)
    (hne : src ≠ dst) (hm : t.get src = none) : (copyOne o t src dst c w).2.1 ≠ .ok := by
  unfold copyOne
  cases hoc : openOrCreate o t dst c with
  | error e => exact Outcome.ofFault_ne_ok
  | ok r =>
    simp only [readFile_missing ((C08.openOrCreate_other hoc hne).trans hm)]
    exact Outcome.ofFault_ne_ok

theorem sum_no_files (o : FOps) (t : Tree) (w : Window) : (Cmd.sum o t [] w).1 = .err .notExist := by
  simp [Cmd.sum, sumFiles, Outcome.ofFault]

/-- an archive selection outside `-1, 0 … k-1` is an error of the fetch list -/
theorem bad_selection_is_error (h : Handle) (a : Int) (f u n : Nat)
    (hbad : a ≠ -1 ∧ ¬ (0 ≤ a ∧ a < h.archs.length)) :
    fetchList h a f u n = .error (.err .outOfRange) := by
  unfold fetchList
  simp [hbad.1, hbad.2]

/-- a layout mismatch is an error for copy (for diff: `C09.layout_mismatch_is_error`) -/
theorem copy_mismatch_not_ok (o : FOps) (t : Tree) (dst : String) (hd : Handle) (sa : List Arch)
    (ls : List (Option Series)) (w : Window) (ex : Bool) (ld : List (Option Series))
    (hf : fetchList hd w.archiveID w.from_ w.until' w.now = .ok ld)
    (hne : layoutsEqual sa hd.archs = false) :
    (copyCore o t dst hd sa ls w ex).2.1 = .err .mismatch := by
  rw [C08.mismatch_writes_no_point o t dst hd sa ls w ex ld hf hne]

end Wsp.C16
