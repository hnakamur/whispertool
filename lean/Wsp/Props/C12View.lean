/-
  C12 composed with the commands, the server on one side and the directory on the other.
  `view` / `sum`: the server runs the local read (or sum), encodes header and series, the
  client decodes them and prints — exactly the records the local command prints, provided the
  header is one `Open` accepts and every series is well-formed (what every fetch inside the
  clock zone returns, `readSeries_wf`); under plain conditions on file, clock and window
  (`view_remote_eq_local_plain`).  `view-raw`: the server sends the header and the raw slots of
  every archive, the client filters and sorts — the records of the local `view-raw`.  `diff`
  (and the source side of `copy`) with the source behind the server: an absent series comes
  back as the empty one, which ⟦TimeSeriesList.Diff⟧ and the range test treat exactly alike —
  the verdict, the listed points and every error are those of the local comparison.
-/
import Wsp.Props.C12
import Wsp.Props.C10
import Wsp.Props.C18Cmd
import Wsp.Props.Reopen
namespace Wsp.C12
open Wsp.C14 Wsp.Total Wsp.Cmd Wsp.Inv Wsp.C08 Wsp.C18

/-- ⟦ViewCommand.execute⟧ with a server URL as the source: what the server computes locally
    travels as bytes -/
def remoteOut : R (Header × List Series) → Outcome × Option Header × List Rec
  | .error e => (.ofFault e, none, [])
  | .ok (h', ss) => (.ok, some h', recsOf ((ss.map some).map seriesPoints))

def remoteOf (o : FOps) : R (Header × List (Option Series)) → Outcome × Option Header × List Rec
  | .error e => (.ofFault e, none, [])
  | .ok (h, l) => remoteOut (decodeView o (encodeView h l))

def viewRemote (o : FOps) (t : Tree) (path : String) (w : Window) : Outcome × Option Header × List Rec :=
  remoteOf o (readFile o t path w.archiveID w.from_ w.until' w.now)

theorem readSeries_wf (h : Handle) (a : Arch) (f cnt now : Nat) (z : WinZone a f cnt now) : SeriesWF (readSeries h a f cnt) := by
  have hs := z.ok.1
  have hlt : f + a.step.toNat * cnt < 4294967296 := Nat.lt_trans z.hi (by decide)
  refine ⟨Nat.lt_of_le_of_lt (Nat.le_add_right _ _) hlt, hlt, Nat.le_add_right _ _, hs, z.ok.step_lt, ?_⟩
  show ((List.range cnt).map _).length = _
  rw [List.length_map, List.length_range]
  show cnt = (Int.tdiv (((f + a.step.toNat * cnt : Nat) : Int) - (f : Int)) a.step).toNat
  rw [window_cast hs, Int.add_comm, Int.add_sub_cancel, Int.mul_tdiv_cancel_left _ (Int.ne_of_gt hs), Int.toNat_natCast]

theorem viewRemote_of_read (o : FOps) (t : Tree) (path : String) (w : Window) (h h' : Header)
    (l : List (Option Series)) (ss : List Series)
    (hrd : readFile o t path w.archiveID w.from_ w.until' w.now = .ok (h, l))
    (hdec : decodeView o (encodeView h l) = .ok (h', ss)) :
    viewRemote o t path w = (.ok, some h', recsOf ((ss.map some).map seriesPoints)) := by
  unfold viewRemote
  rw [hrd]
  show remoteOut (decodeView o (encodeView h l)) = _
  rw [hdec]
  rfl

/-- what the local command prints from the same result -/
def localOut : R (Header × List (Option Series)) → Outcome × Option Header × List Rec
  | .error e => (.ofFault e, none, [])
  | .ok (h, l) => (.ok, some h, recsOf (l.map seriesPoints))

theorem remote_eq_local (o : FOps) (h : Header) (l : List (Option Series)) (wf : HeaderWF o h)
    (hlen : l.length = h.archives.length) (hwf : ∀ s ∈ l, ∃ x, s = some x ∧ SeriesWF x) :
    remoteOf o (.ok (h, l)) = localOut (.ok (h, l)) := by
  have hwfs : ∀ s ∈ l, ∀ x, s = some x → SeriesWF x := fun s hs x hx => by
    obtain ⟨y, rfl, wy⟩ := hwf s hs
    cases hx; exact wy
  show remoteOut (decodeView o (encodeView h l)) = _
  rw [view_transparent o h wf l hlen hwfs]
  simp only [remoteOut, localOut, List.map_map, Function.comp_def, (sAcc_empty _).2.2.2.2]

theorem view_is_localOut (o : FOps) (t : Tree) (path : String) (w : Window) :
    Cmd.view o t path w = localOut (readFile o t path w.archiveID w.from_ w.until' w.now) := by
  unfold Cmd.view
  cases readFile o t path w.archiveID w.from_ w.until' w.now <;> rfl

theorem view_remote_eq_local (o : FOps) (t : Tree) (path : String) (b : Bytes) (h : Handle) (w : Window)
    (A : Nat → Arch) (F C : Nat → Nat)
    (hget : t.get path = some b) (hopen : openBytes o b = .ok h) (al : AllState h)
    (hall : w.archiveID = -1)
    (hspec : ∀ k, k < h.archs.length → WinSpec h w k (A k) (F k) (C k)) :
    viewRemote o t path w = Cmd.view o t path w := by
  rw [view_is_localOut, viewRemote, readFile_win o t path b h w A F C hget hopen al hall hspec]
  apply remote_eq_local o _ _ (opened_reopenable o b _ h hopen).wf (by simp; rfl)
  intro s hs
  obtain ⟨j, hj, rfl⟩ := List.mem_map.1 hs
  exact ⟨_, rfl, readSeries_wf h (A j) (F j) (C j) w.now (hspec j (List.mem_range.1 hj)).zone⟩

def rawRemoteOut (w : Window) (sort : Bool) : R (Header × List (List Point)) → Outcome × Option Header × List Rec
  | .error e => (.ofFault e, none, [])
  | .ok (h', pl') => rawOut w sort h' pl'

/-- ⟦ViewRawCommand.execute⟧ with a server URL as the source, all archives -/
def viewRawRemote (o : FOps) (t : Tree) (path : String) (w : Window) (sort : Bool) : Outcome × Option Header × List Rec :=
  match t.get path with
  | none => (.err .notExist, none, [])
  | some b =>
    match openBytes o b with
    | .error _ => (.err .invalid, none, [])
    | .ok h =>
      match rawAll h 0 h.archs with
      | .error e => (.ofFault e, none, [])
      | .ok pl => rawRemoteOut w sort (decodeRaw o (encodeRaw h.hdr pl))

theorem slot_time_lt (h : Handle) (a : Arch) (i : Nat) : (slotAt h a i).t < 4294967296 := by
  unfold slotAt
  exact de32_lt _

theorem viewRaw_remote_eq_local (o : FOps) (t : Tree) (path : String) (b : Bytes) (h : Handle) (w : Window) (sort : Bool)
    (A : Nat → Arch)
    (hget : t.get path = some b) (hopen : openBytes o b = .ok h) (al : AllState h)
    (hall : w.archiveID = -1)
    (harch : ∀ k, k < h.archs.length → h.archs[k]? = some (A k)) :
    viewRawRemote o t path w sort = viewRaw o t path w sort := by
  have hra := rawAll_reads A h al h.archs 0 (by simp) harch
  simp only [Nat.zero_add] at hra
  generalize hP : ((List.range h.archs.length).map fun j => (List.range (A j).n).map (slotAt h (A j))) = P at hra
  -- every slot list is one the codec carries: 32-bit times, no more slots than an archive may have
  have hwf : ∀ ps ∈ P, (∀ p ∈ ps, p.t < 4294967296) ∧ ps.length ≤ maxPointCount := by
    rw [← hP]
    simp only [List.forall_mem_map, List.mem_range, List.length_map, List.length_range]
    intro j hj
    have := ((open_good o b _ h hopen).placed (A j) (List.mem_of_getElem? (harch j hj))).fit
    exact ⟨fun i _ => slot_time_lt h (A j) i, by unfold maxPointCount; omega⟩
  rw [viewRaw_open hget hopen, hall, select_all, ← rawAll_eq, hra]
  simp only [viewRawRemote, hget, hopen, hra, view_raw_transparent o h.hdr (opened_reopenable o b _ h hopen).wf P
    (by rw [← hP, List.length_map, List.length_range]; rfl) hwf]
  rfl

theorem remote_error (o : FOps) (e : Fault) : remoteOf o (.error e) = localOut (.error e) := rfl

/-- ⟦SumCommand.execute⟧ with a server URL as the source -/
def sumRemote (o : FOps) (t : Tree) (files : List String) (w : Window) : Outcome × Option Header × List Rec :=
  remoteOf o (sumFiles o t files w)

theorem sum_is_localOut (o : FOps) (t : Tree) (files : List String) (w : Window) :
    Cmd.sum o t files w = localOut (sumFiles o t files w) := by
  unfold Cmd.sum
  cases sumFiles o t files w <;> rfl

theorem sum_remote_eq_local (o : FOps) (t : Tree) (files : List String) (w : Window)
    (hgood : ∀ h l, sumFiles o t files w = .ok (h, l) →
      HeaderWF o h ∧ l.length = h.archives.length ∧ ∀ s ∈ l, ∃ x, s = some x ∧ SeriesWF x) :
    sumRemote o t files w = Cmd.sum o t files w := by
  rw [sum_is_localOut]
  unfold sumRemote
  cases h : sumFiles o t files w with
  | error e => rfl
  | ok r =>
    obtain ⟨hd, l⟩ := r
    obtain ⟨wf, hlen, hwf⟩ := hgood hd l h
    exact remote_eq_local o hd l wf hlen hwf

/-- **the summed series are well-formed** when the first file's are and every file has as
    many values per archive as the first -/
theorem sumSeries_wf (o : FOps) (k : Nat) (l0 : List (Option Series)) (rest : List (List (Option Series)))
    (h0 : ∀ i, i < k → ∃ x, l0.getD i none = some x ∧ SeriesWF x)
    (hlen : ∀ l ∈ l0 :: rest, ∀ i, i < k → (sValues (l.getD i none)).length = (sValues (l0.getD i none)).length) :
    ∀ s ∈ sumSeries o k (l0 :: rest), ∃ x, s = some x ∧ SeriesWF x := by
  intro s hs
  simp only [sumSeries, List.mem_map, List.mem_range] at hs
  obtain ⟨i, hi, e⟩ := hs
  obtain ⟨x, hx, wf⟩ := h0 i hi
  refine ⟨_, e.symm, ?_⟩
  rw [hx]
  simp only [sFrom, sUntil, sStep]
  refine ⟨wf.f_lt, wf.u_lt, wf.le, wf.step_pos, wf.step_lt, ?_⟩
  simp only
  rw [C10.sumColumns_length o x.values.length _ (by simp)
    (List.forall_mem_map.2 fun l hl => by rw [hlen l hl i hi, hx]; rfl)]
  exact wf.len

/-- ⟦DiffCommand.diffOneFile⟧ as a function of the two reads (`Cmd.diffWith o true`, written out) -/
def diffOf (o : FOps) (rs rd : R (Header × List (Option Series))) : Outcome × List Rec :=
  match rs, rd with
  | .error (.err .notExist), _ => (.diffFound, [])
  | _, .error (.err .notExist) => (.diffFound, [])
  | .error e, _ => (.ofFault e, [])
  | _, .error e => (.ofFault e, [])
  | .ok (hs, ls), .ok (hd, ld) =>
    if !layoutsEqual hs.archives hd.archives then (.err .mismatch, [])
    else if !rangesEqual ls ld then (.err .unalike, [])
    else
      let (sp, dp) := diffLists o false ls ld
      if allEmpty sp && allEmpty dp then (.ok, [])
      else (.diffFound, diffRecs o hs.archives.length sp dp)

theorem diffOne_eq (o : FOps) (t : Tree) (src dst : String) (w : Window) :
    diffOne o t src dst w =
      diffOf o (readFile o t src w.archiveID w.from_ w.until' w.now) (readFile o t dst w.archiveID w.from_ w.until' w.now) := rfl

/-- what the client has after the round trip through the server: the series, absent ones as
    empty ones; an error stays the error it was (a missing file: the empty body) -/
def viaOut : R (Header × List Series) → R (Header × List (Option Series))
  | .error e => .error e
  | .ok (h', ss) => .ok (h', ss.map some)

def viaServer (o : FOps) : R (Header × List (Option Series)) → R (Header × List (Option Series))
  | .error e => .error e
  | .ok (h, l) => viaOut (decodeView o (encodeView h l))

theorem viaServer_ok (o : FOps) (h : Header) (l : List (Option Series)) (wf : HeaderWF o h)
    (hlen : l.length = h.archives.length) (hwf : ∀ s ∈ l, ∀ x, s = some x → SeriesWF x) :
    viaServer o (.ok (h, l)) = .ok (h, (l.map emptyIfAbsent).map some) := by
  show viaOut (decodeView o (encodeView h l)) = _
  rw [view_transparent o h wf l hlen hwf]
  rfl

theorem diffPoints_empty (o : FOps) (excl : Bool) (s d : Option Series) :
    diffPoints o excl (some (emptyIfAbsent s)) d = diffPoints o excl s d := by
  obtain ⟨h1, _, h3, h4, h5⟩ := sAcc_empty s
  unfold diffPoints
  rw [h4, h1, h3, h5]

-- both tests go through `zip`; `List.zip_map_left` moves the substitution into the tested pair
theorem rangesEqual_empty (l ld : List (Option Series)) :
    rangesEqual ((l.map emptyIfAbsent).map some) ld = rangesEqual l ld := by
  unfold rangesEqual
  simp only [List.length_map, List.map_map, List.zip_map_left, List.all_map]
  congr 2
  funext ⟨s, d⟩
  obtain ⟨h1, h2, h3, _, _⟩ := sAcc_empty s
  simp [h1, h2, h3]

theorem diffLists_empty (o : FOps) (excl : Bool) (l ld : List (Option Series)) :
    diffLists o excl ((l.map emptyIfAbsent).map some) ld = diffLists o excl l ld := by
  simp only [diffLists, List.length_map, List.map_map, List.zip_map_left, Function.comp_def, Prod.map_fst,
    Prod.map_snd, id, diffPoints_empty, (sAcc_empty _).2.2.2.2]

/-- **diff with the source behind the server = diff of the directory**: same verdict, same
    records, same errors -/
theorem diff_remote_source_eq_local (o : FOps) (rs rd : R (Header × List (Option Series)))
    (hgood : ∀ h l, rs = .ok (h, l) → HeaderWF o h ∧ l.length = h.archives.length ∧ ∀ s ∈ l, ∀ x, s = some x → SeriesWF x) :
    diffOf o (viaServer o rs) rd = diffOf o rs rd := by
  cases rs with
  | error e => rfl
  | ok r =>
    obtain ⟨h, l⟩ := r
    obtain ⟨wf, hlen, hwf⟩ := hgood h l rfl
    rw [viaServer_ok o h l wf hlen hwf]
    cases rd with
    | error e => cases e with
      | panic s => rfl
      | wantLarger n => rfl
      | err k => cases k <;> rfl
    | ok r2 =>
      obtain ⟨hd, ld⟩ := r2
      simp only [diffOf]
      rw [rangesEqual_empty, diffLists_empty]

theorem view_remote_eq_local_plain (o : FOps) (t : Tree) (path : String) (b : Bytes) (h : Handle) (w : Window)
    (hget : t.get path = some b) (hopen : openBytes o b = .ok h) (al : AllState h)
    (hall : w.archiveID = -1) (hfu : w.from_ ≤ w.until') (hfn : w.from_ ≤ w.now)
    (hz : ∀ a ∈ h.archs, ¬ w.until' < tsAdd w.now (- a.maxRetention) ∧ a.step * (a.n : Int) ≤ w.now ∧
      (w.now : Int) + 2 * a.step < 2147483648) :
    viewRemote o t path w = Cmd.view o t path w := by
  obtain ⟨A, F, C, hspec⟩ := winSpecs_exist (open_good o b _ h hopen) hfu hfn hz
  exact view_remote_eq_local o t path b h w A F C hget hopen al hall hspec

end Wsp.C12
