/-
  C19  Text syntax round-trips: what is printed is what is parsed.

  Durations: `parse (print d) = d` for every `0 ≤ d < 2^31`; whenever the parser
  accepts a string, that string is `digits ++ [unit]` and the value is the exact product
  (no wrap-around), hence the listed rejections.  Method names: finite table.
  Timestamps: `timestamp_roundtrip` for all 2^32 instants.  Retention lists: `C19List.lean`.
-/
import Wsp.Proofs.TextLemmas
import Wsp.Proofs.Calendar
namespace Wsp.C19

/-- every printed unit is a parsed unit with the same multiplier, positive, and not a digit -/
theorem tables_consistent :
    ∀ p ∈ printTable, unitTable.lookup p.2 = some p.1 ∧ 0 < p.1 ∧ isDigit p.2 = false := by decide

theorem lookup_pos {c : Char} {u : Int} (hu : unitTable.lookup c = some u) : 0 < u := by
  unfold unitTable at hu
  simp only [List.lookup] at hu
  repeat (split at hu; · injection hu with hu; omega)
  simp at hu

/-- the overflow test and the multiplication of ⟦ParseDuration⟧ give the exact product when it fits -/
theorem mul_fits {x u : Int} (hx : 0 ≤ x) (hu : 0 < u) :
    (if x > Int.tdiv 2147483647 u then none else if i32 (x * u) < 0 then none else some (i32 (x * u))) =
    if x * u ≤ 2147483647 then some (x * u) else none := by
  have hp : 0 ≤ x * u := Int.mul_nonneg hx (by omega)
  rw [Int.tdiv_eq_ediv_of_nonneg (by omega)]
  by_cases hfit : x * u ≤ 2147483647
  · have := (Int.le_ediv_iff_mul_le hu).2 hfit
    have h32 : i32 (x * u) = x * u := by
      generalize x * u = p at *
      unfold i32; omega
    rw [if_neg (by omega), h32, if_neg (by omega), if_pos hfit]
  · have : ¬ x ≤ 2147483647 / u := fun h => hfit ((Int.le_ediv_iff_mul_le hu).1 h)
    rw [if_pos (by omega), if_neg hfit]

/-- **what ⟦ParseDuration⟧ does**, read off a string split into its leading digits and the rest: the
    rest must be one character, a unit; the value is the exact product, if it fits in int32 -/
theorem parseDuration_append {ds rest : Str} (hd : ∀ x ∈ ds, isDigit x = true) (hr : StopsNumber rest) :
    parseDuration (ds ++ rest) =
      if valOf 0 ds ≤ 2147483647 ∧ ¬ (valOf 0 ds = 0 ∧ ds.length ≠ 1) then
        match rest with
        | [c] => (unitTable.lookup c).bind fun u =>
          if ((valOf 0 ds : Nat) : Int) * u ≤ 2147483647 then some (((valOf 0 ds : Nat) : Int) * u) else none
        | _ => none
      else none := by
  unfold parseDuration
  rw [leadingInt_append ds rest hd hr]
  by_cases hv : valOf 0 ds ≤ 2147483647 ∧ ¬ (valOf 0 ds = 0 ∧ ds.length ≠ 1)
  · simp only [if_pos hv, unitMultiplier]
    match rest with
    | [c] =>
      simp only
      cases hu : unitTable.lookup c with
      | none => rfl
      | some u => exact mul_fits (by omega) (lookup_pos hu)
    | [] => rfl
    | _ :: _ :: _ => rfl
  · simp only [if_neg hv]

/-- **exact meaning**: an accepted string is `digits ++ [unit]`, and the result is the
    arithmetic product, which fits in 31 bits (no wrap-around). -/
theorem parse_exact (s : Str) (d : Int) (h : parseDuration s = some d) :
    ∃ ds c u, s = ds ++ [c] ∧ ds ≠ [] ∧ (∀ x ∈ ds, isDigit x = true) ∧ isDigit c = false ∧
      unitTable.lookup c = some u ∧ d = (valOf 0 ds : Nat) * u ∧ 0 ≤ d ∧ d ≤ 2147483647 := by
  obtain ⟨ds, rest, rfl, hd, hr⟩ := exists_digits_prefix s
  rw [parseDuration_append hd hr, Option.ite_none_right_eq_some] at h
  obtain ⟨hv, h⟩ := h
  split at h
  · rename_i c
    obtain ⟨u, hu, h⟩ := Option.bind_eq_some_iff.1 h
    obtain ⟨hfit, h⟩ := Option.ite_none_right_eq_some.1 h
    injection h with h; subst h
    have := lookup_pos hu
    exact ⟨ds, c, u, rfl, by rintro rfl; exact hv.2 ⟨rfl, by simp⟩, hd, hr c [] rfl, hu, rfl,
      Int.mul_nonneg (by omega) (by omega), hfit⟩
  · cases h

/-- every unit ⟦Duration.String⟧ can print: the table's and the default `s` -/
theorem printed_units : ∀ p ∈ (1, 's') :: printTable,
    unitTable.lookup p.2 = some p.1 ∧ 0 < p.1 ∧ isDigit p.2 = false ∧ p.2 ≠ ':' ∧ p.2 ≠ ',' := by decide

theorem showInt_nonneg {d : Int} (hd : 0 ≤ d) : showInt d = showNat d.toNat := by
  unfold showInt; rw [if_neg (by omega)]

/-- **what ⟦Duration.String⟧ prints**: a natural number and a unit of the table whose product is the
    duration -/
theorem durationStringAux_shape {d : Int} (hd : 0 ≤ d) (tbl : List (Int × Char)) (ht : ∀ p ∈ tbl, 0 < p.1) :
    ∃ (q : Nat) (p : Int × Char), (p = (1, 's') ∨ p ∈ tbl) ∧ durationStringAux d tbl = showNat q ++ [p.2] ∧
      (q : Int) * p.1 = d := by
  induction tbl with
  | nil => exact ⟨d.toNat, _, Or.inl rfl, by rw [durationStringAux, showInt_nonneg hd], by omega⟩
  | cons p tbl ih =>
    unfold durationStringAux
    by_cases hm : Int.tmod d p.1 = 0
    · have hq0 : 0 ≤ Int.tdiv d p.1 := Int.tdiv_nonneg hd (Int.le_of_lt (ht p (by simp)))
      refine ⟨(Int.tdiv d p.1).toNat, p, Or.inr (by simp), by rw [if_pos hm, showInt_nonneg hq0], ?_⟩
      have := Int.tmod_add_tdiv_mul d p.1
      rw [Int.toNat_of_nonneg hq0]; omega
    · obtain ⟨q, p', hp, hs, hq⟩ := ih (fun p hp => ht p (by simp [hp]))
      exact ⟨q, p', hp.imp id (List.mem_cons_of_mem _), by rw [if_neg hm]; exact hs, hq⟩

theorem durationString_shape {d : Int} (hd : 0 ≤ d) :
    ∃ (q : Nat) (p : Int × Char), p ∈ (1, 's') :: printTable ∧ durationString d = showNat q ++ [p.2] ∧ (q : Int) * p.1 = d := by
  unfold durationString
  by_cases hz : d = 0
  · exact ⟨0, (1, 's'), by simp, by rw [if_pos hz, showNat_zero]; rfl, by omega⟩
  · rw [if_neg hz]
    obtain ⟨q, p, hp, h⟩ := durationStringAux_shape hd printTable fun p hp => (printed_units p (by simp [hp])).2.1
    exact ⟨q, p, List.mem_cons.2 hp, h⟩

/-- **parse ∘ print = id on durations**: every non-negative duration (all 2^31 of them). -/
theorem parse_print_duration (d : Int) (h0 : 0 ≤ d) (h1 : d < 2147483648) :
    parseDuration (durationString d) = some d := by
  obtain ⟨q, p, hp, hs, hq⟩ := durationString_shape h0
  obtain ⟨hu, hupos, hc, _⟩ := printed_units p hp
  have hq' : q ≤ 2147483647 := by
    have : (q : Int) * 1 ≤ (q : Int) * p.1 := Int.mul_le_mul_of_nonneg_left (by omega) (by omega)
    omega
  have hz : ¬ (q = 0 ∧ (showNat q).length ≠ 1) := by
    rintro ⟨rfl, h⟩; rw [showNat_zero] at h; exact h rfl
  rw [hs, parseDuration_append (showNat_digits q) (stops_cons _ _ hc), valOf_showNat, if_pos ⟨hq', hz⟩]
  simp only [hu, Option.bind_some, hq, if_pos (show d ≤ 2147483647 by omega)]

theorem rejects_empty : parseDuration [] = none := by decide

theorem rejects_nondigit_head (c : Char) (s : Str) (hc : isDigit c = false) : parseDuration (c :: s) = none := by
  have := parseDuration_append (ds := []) (by simp) (stops_cons c s hc)
  simpa [valOf] using this

theorem rejects_sign (s : Str) : parseDuration ('-' :: s) = none ∧ parseDuration ('+' :: s) = none :=
  ⟨rejects_nondigit_head _ s rfl, rejects_nondigit_head _ s rfl⟩

theorem rejects_no_unit (s : Str) (hd : ∀ c ∈ s, isDigit c = true) : parseDuration s = none :=
  Option.eq_none_iff_forall_ne_some.2 fun d h => by
    obtain ⟨ds, c, u, rfl, _, _, hc, _⟩ := parse_exact s d h
    have := hd c (by simp)
    rw [hc] at this; cases this

/-- `parse_exact` for a string given with its last character -/
theorem parse_snoc (ds : Str) (c : Char) (d : Int) (h : parseDuration (ds ++ [c]) = some d) :
    (∀ x ∈ ds, isDigit x = true) ∧ ∃ u, unitTable.lookup c = some u ∧ d = (valOf 0 ds : Nat) * u ∧ d ≤ 2147483647 := by
  obtain ⟨ds', c', u, hs, _, hdig, _, hu, hd, _, hle⟩ := parse_exact _ d h
  obtain ⟨rfl, hcc⟩ := List.append_inj' hs rfl
  injection hcc with hcc; subst hcc
  exact ⟨hdig, u, hu, hd, hle⟩

theorem rejects_unknown_unit (ds : Str) (c : Char) (hu : unitTable.lookup c = none) :
    parseDuration (ds ++ [c]) = none :=
  Option.eq_none_iff_forall_ne_some.2 fun d h => by
    obtain ⟨_, u, hu', _⟩ := parse_snoc ds c d h
    rw [hu] at hu'; cases hu'

theorem rejects_doubled_unit (ds : Str) (c c' : Char) (hc : isDigit c = false) :
    parseDuration (ds ++ [c, c']) = none :=
  Option.eq_none_iff_forall_ne_some.2 fun d h => by
    -- the next-to-last character of an accepted string is a digit
    have := (parse_snoc (ds ++ [c]) c' d (by simpa using h)).1 c (by simp)
    rw [hc] at this; cases this

theorem rejects_too_large (ds : Str) (c : Char) (u : Int) (hu : unitTable.lookup c = some u)
    (hbig : (valOf 0 ds : Nat) * u > 2147483647) : parseDuration (ds ++ [c]) = none :=
  Option.eq_none_iff_forall_ne_some.2 fun d h => by
    obtain ⟨_, u', hu', hd, hle⟩ := parse_snoc ds c d h
    rw [hu] at hu'; injection hu' with hu'; subst hu'
    omega

/-- **parse ∘ print = id on all 2^32 timestamps**: the fixed layout `2006-01-02T15:04:05Z`
    printed from the civil date of `t / 86400` and the time of day `t % 86400` parses back to
    `t`.  The calendar core (day ↦ (y, m, d) ↦ day, with a valid month and day-of-month) holds
    for every day number by arithmetic (`civilFromDays_spec`, `Wsp/Proofs/Calendar.lean`);
    reading the six printed fields back is `parseCivil_layout`. -/
theorem timestamp_roundtrip (t : Nat) (ht : t < 4294967296) :
    parseTimestamp (timestampString t) = some t := by
  have hc := cal_facts (t / 86400) (by unfold lastDay; omega)
  have hrange : ¬ ((t : Int) < 0 ∨ (t : Int) > 4294967295) := by omega
  -- the day and the second of the day by name, then hour, minute and second
  have hday : t / 86400 * 86400 + t % 86400 = t := Nat.div_add_mod' t 86400
  have hsod : t % 86400 < 86400 := Nat.mod_lt _ (by decide)
  unfold timestampString
  generalize t / 86400 = day, t % 86400 = sod at *
  have hs : sod / 3600 < 24 ∧ sod / 60 % 60 < 60 ∧ sod % 60 < 60 ∧
      sod / 3600 * 3600 + sod / 60 % 60 * 60 + sod % 60 = sod := by clear hc hday ht; omega
  cases hcd : civilFromDays day with
  | mk y md =>
    obtain ⟨m, d⟩ := md
    simp only [hcd] at hc ⊢
    generalize sod / 3600 = hh, sod / 60 % 60 = mm, sod % 60 = ss at *
    obtain ⟨hhh, hmm, hss, hsum⟩ := hs
    obtain ⟨hdays, hm1, hm2, hd1, hd2, hy1, hy2⟩ := hc
    have hd31 := daysIn_le y m
    unfold parseTimestamp
    have hr : ¬ (m < 1 ∨ m > 12 ∨ d < 1 ∨ d > daysIn y m ∨ hh ≥ 24 ∨ mm ≥ 60 ∨ ss ≥ 60) := by omega
    have hw : y < 10000 ∧ m < 100 ∧ d < 100 ∧ hh < 100 ∧ mm < 100 ∧ ss < 100 := by omega
    rw [parseCivil_layout y m d hh mm ss hw.1 hw.2.1 hw.2.2.1 hw.2.2.2.1 hw.2.2.2.2.1 hw.2.2.2.2.2, if_neg hr, hdays, hsum]
    have hsec : (day : Int) * 86400 + (sod : Int) = (t : Int) := by omega
    simp only [hsec]
    rw [if_neg hrange, Int.toNat_natCast]

/-- an accepted timestamp is inside the uint32 range: no wrap-around (repaired) -/
theorem timestamp_no_wrap (s : Str) (t : Nat) (h : parseTimestamp s = some t) : t ≤ 4294967295 := by
  unfold parseTimestamp at h
  split at h
  · simp at h
  · rename_i sec _
    split at h
    · simp at h
    · rename_i hr
      injection h with h
      omega

theorem method_names : ∀ m ∈ [1, 2, 3, 4, 5, 6, 7, 8],
    (aggName m).bind aggParse = some m := by decide

theorem method_flag_accepts_storable : ∀ m ∈ [1, 2, 3, 4, 5, 6, 7, 8],
    ((aggName m).bind aggFlagParse).isSome = validAgg m := by decide

example : parseDuration (durationString 604800) = some 604800 := parse_print_duration _ (by omega) (by omega)
example : durationString 604800 = ['1', 'w'] := by
  simp [durationString, durationStringAux, printTable, showInt, showNat, digitChar]

end Wsp.C19
