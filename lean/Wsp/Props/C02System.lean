/-
  C02 at system level, for one written point.  The work-list loop of ⟦propagateChain⟧ started
  with one time is the simple chain `chainSpec` (`chainLoop_single`).  Hence
  `single_update_first_level`: a single update of the finest archive is its direct write, then
  exactly one consolidation step into the next archive — for the one coarser interval that
  contains the written one — and everything after that lies behind both archives.  What that
  one step does is `C02.propagateOne_spec`: it reads the finer ring over the coarse interval as
  it is *after* the direct write, and stores the aggregate of the known values iff there is at
  least one and the known fraction reaches xFilesFactor.
-/
import Wsp.Props.Invariant
namespace Wsp.C02S
open Wsp.Handle Wsp.C14 Wsp.Total Wsp.C01 Wsp.Inv

/-- the simple algorithm: consolidate the one coarser interval containing `T` at level `k`;
    go on to the next level only if a value was stored -/
def chainSpec (o : FOps) : Nat → Handle → Nat → Nat → R Handle
  | 0, h, _, _ => .ok h
  | fuel+1, h, k, T =>
    if k < h.archs.length then
      match h.archs[k]?, h.archs[k - 1]? with
      | some a, some aHigh =>
        match h.baseInterval a with
        | .error e => .error e
        | .ok _ =>
          match propagateOne o h a aHigh T with
          | .error e => .error e
          | .ok (h', stored) =>
            if stored then
              match h.archs[k + 1]? with
              | none => .ok h'
              | some l => chainSpec o fuel h' (k + 1) (l.intervalForWrite T)
            else .ok h'
      | _, _ => .error (.panic "index out of range")
    else .ok h

/-- **for a single written point ⟦propagateChain⟧ performs at most one consolidation step per
    level**, each for the interval of the level that contains the previous one, and stops at
    the first level that stores nothing -/
theorem chainLoop_single (o : FOps) (fuel : Nat) :
    ∀ (h : Handle) (k : Nat) (T : Nat), propagateChainLoop o fuel h k [T] = chainSpec o fuel h k T := by
  intro h k T
  induction fuel generalizing h k T with
  | zero => rfl
  | succ fuel ih =>
    simp only [propagateChainLoop, chainSpec, List.length_singleton, Nat.lt_add_one, and_true, propagate,
      Nat.succ_ne_self, if_false, propagateLoop]
    split
    · cases h.archs[k]? <;> cases h.archs[k - 1]? <;> try rfl
      dsimp only
      cases h.baseInterval _ <;> try rfl
      dsimp only
      cases propagateOne o h _ _ T with
      | error e => rfl
      | ok r =>
        obtain ⟨h', stored⟩ := r
        -- nothing stored, or no next archive: the work-list is empty
        cases stored
        · exact chainLoop_nil o fuel h' (k + 1)
        · dsimp only [nextAcc]
          cases h.archs[k + 1]?
          · exact chainLoop_nil o fuel h' (k + 1)
          · exact ih h' (k + 1) _
    · rfl

/-- ⟦propagateChain⟧ for one aligned point, as the simple chain -/
theorem propagateChain_single (o : FOps) (h : Handle) (k : Nat) (p : Point) :
    propagateChain o h k [p] =
      match h.archs[k + 1]? with
      | none => .ok h
      | some l => chainSpec o h.archs.length h (k + 1) (l.intervalForWrite p.t) := by
  unfold propagateChain
  dsimp only
  cases h.archs[k + 1]? with
  | none => rfl
  | some l => exact chainLoop_single o _ h (k + 1) _

theorem single_update_first_level (o : FOps) (h h' : Handle) (g : Good h) (a0 a1 : Arch)
    (ha0 : h.archs[0]? = some a0) (ha1 : h.archs[1]? = some a1) (t : Nat) (v : Val) (now : Nat)
    (hp : h.updatePoint o 0 t v now = .ok h') :
    ∃ off h1 hm stored,
      h.getPointOffset (a0.intervalForWrite t) a0 = .ok off ∧
      h.putPointAt ⟨a0.intervalForWrite t, v⟩ off = .ok h1 ∧
      propagateOne o h1 a1 a0 (a1.intervalForWrite (a0.intervalForWrite t)) = .ok (hm, stored) ∧
      SameOn a0 hm h' ∧ SameOn a1 hm h' ∧ SameOn a0 h1 hm := by
  obtain ⟨_, a, off, h1, ha, hg, hput, hch⟩ := updatePoint_eq_ok hp
  obtain rfl : a0 = a := Option.some.inj (ha0.symm.trans ha)
  have f1 := putPointAt_frame (getPointOffset_ge (g.placed a0 (List.mem_of_getElem? ha0)) hg) hput
  have g1 := g.of_frame f1
  rw [← f1.archs] at ha0 ha1
  -- the chain is one step at level 1, then a chain from level 2
  change propagateChain o h1 0 _ = _ at hch
  rw [propagateChain_single] at hch
  simp only [Nat.zero_add, ha1] at hch
  have hlen := (List.getElem?_eq_some_iff.1 ha1).1
  obtain ⟨fuel, hfuel⟩ : ∃ fuel, h1.archs.length = fuel + 1 := ⟨_, (Nat.sub_add_cancel (Nat.le_of_lt hlen)).symm⟩
  rw [hfuel] at hch hlen
  have hk : 0 < fuel := Nat.lt_of_succ_lt_succ hlen
  simp only [chainSpec, hfuel, Nat.lt_add_left_iff_pos, ha1, Nat.sub_self, ha0, if_pos hk] at hch
  split at hch
  · simp at hch
  split at hch
  · simp at hch
  rename_i hm stored hone
  -- level 1 writes behind archive 0; what follows is nothing, or a chain from level 2, behind archive 1
  have p1 := g1.placedFrom ha0 1 a1 (Nat.le_refl 1) ha1
  have fone := (propagateOne_post (frameRule o (g1.placedFrom ha0)) (Frame.refl _ h1) ha1 ha0 (Nat.le_refl 1)).of_ok hone
  have ftail : Frame (a1.offset + 12 * a1.n) hm h' := by
    have pf1 := (g1.of_frame fone).placedFrom (fone.archs ▸ ha1)
    split at hch
    · split at hch
      · cases hch; exact Frame.refl _ _
      · rw [← chainLoop_single] at hch
        exact propagateChainLoop_frameFrom pf1 hch
    · cases hch; exact Frame.refl _ _
  exact ⟨off, h1, hm, stored, hg, hput, hone, frame_sameOn a0 ftail (Nat.le_trans p1.lo (Nat.le_add_right _ _)),
    frame_sameOn a1 ftail (Nat.le_refl _),
    frame_sameOn a0 fone (Nat.le_refl _)⟩

end Wsp.C02S
