/-
  C06  On-disk format is classic Whisper.

  The format theorems: big-endian 32-bit fields, the header's field order, contiguous
  archives in declaration order right after the header, 12-byte slots, and the total
  length.  The slot position is the classic formula `((I − base)/S) mod N` relative to
  the interval held in the archive's first slot.  The reference reader's fetch is modelled
  and proved equal to whispertool's in `C06Ref.lean`; what that model leaves out, and
  whispertool reading what the reference writer wrote, is validated by the correspondence
  stream (go-whisper reads whispertool-written bytes; whispertool and the model read
  go-whisper-written bytes).
-/
import Wsp.Proofs.Layout
import Wsp.Proofs.OpenLemmas
import Wsp.Props.FactsTie
import Wsp.Props.C05
namespace Wsp.C06
open Wsp.Handle Wsp.C14

/-- a 32-bit field is four bytes, most significant first -/
theorem be32_big_endian (n : Nat) (h : n < 4294967296) :
    ∃ b3 b2 b1 b0 : UInt8, be32 n = [b3, b2, b1, b0] ∧
      n = b3.toNat * 16777216 + b2.toNat * 65536 + b1.toNat * 256 + b0.toNat :=
  ⟨_, _, _, _, rfl, (de32_be32 n h).symm⟩

/-- the model's encoding of a value, unfolded: the high 32 bits of its bit pattern as a 32-bit
    field, then the low 32 bits (with `be32_big_endian`: most significant byte first) -/
theorem be64_big_endian (v : Val) : be64 v = be32 (v.toNat / 4294967296) ++ be32 (v.toNat % 4294967296) := rfl

/-- the model's header encoding, unfolded: the 32-bit fields aggregation type, max retention,
    xFilesFactor, archive count, then the archive list (`encArchs`, one `arch_layout` after the
    other by its definition) — 16 + 12·k bytes -/
theorem header_layout (h : Header) :
    encHeader h = be32 (u32 h.agg) ++ be32 (u32 h.maxRet) ++ be32 h.xff.toNat ++ be32 h.count ++ encArchs h.archives ∧
    (encHeader h).length = 16 + 12 * h.archives.length :=
  ⟨rfl, encHeader_length h⟩

/-- the model's archive entry, unfolded: offset, secondsPerPoint, points as 32-bit fields -/
theorem arch_layout (a : Arch) : encArch a = be32 a.offset ++ be32 (u32 a.step) ++ be32 a.n := rfl

/-- the model's slot encoding, unfolded: the 32-bit field of the interval, then the encoded
    value; 12 bytes -/
theorem slot_layout (p : Point) : encPoint p = be32 p.t ++ be64 p.v ∧ (encPoint p).length = 12 :=
  ⟨rfl, encPoint_length p⟩

/-- archives are laid out contiguously in declaration order: the first starts right
    after the header, each next one where the previous ends -/
theorem contiguous (as : List Arch) (hr : ∀ a ∈ as, ArchWF a) (hv : validateArchs as = true) :
    ∀ i a, as[i]? = some a → a.offset = 16 + 12 * as.length + 12 * sumN (as.take i) :=
  wfFrom_contiguous ((validateArchs_iff as hr).1 hv).2.2

/-- total length: header + 12 × total points -/
theorem file_length (o : FOps) (agg : Nat) (xff : UInt32) (lay : List (Int × Nat))
    (disk : Bytes) (h : Handle) (hc : createHandle o agg xff lay = .ok (disk, h))
    (hcount : h.hdr.count = h.hdr.archives.length) :
    disk.length = 16 + 12 * h.hdr.archives.length + 12 * sumN h.hdr.archives ∧
    h.view.length = disk.length := by
  obtain ⟨h1, h2, -⟩ := C05.create_length o agg xff lay disk h hc
  exact ⟨h1.trans (expectedFileSize_eq hcount), h2⟩

/-- writing a point puts exactly its 12 encoded bytes at the slot's offset and leaves
    every other byte alone -/
theorem slot_bytes (h h' : Handle) (p : Point) (off : Nat) (hp : h.putPointAt p off = .ok h') :
    (h'.view.drop off).take 12 = be32 p.t ++ be64 p.v ∧
    h'.view.take off = h.view.take off ∧ h'.view.drop (off + 12) = h.view.drop (off + 12) :=
  have ⟨_, _, ht, hm, hd⟩ := putPointAt_parts hp
  ⟨hm, ht, hd⟩

/-- the classic slot position: relative to the interval held in the archive's first
    slot, `((I − base)/S) mod N` (floored), at `offset + 12·index` -/
theorem slot_position (a : Arch) (base iv : Nat) (hs : 0 < a.step) (hn : 0 < a.n)
    (hb : base < 2147483648) (hi : iv < 2147483648) (hal : a.step ∣ ((iv : Int) - (base : Int)))
    (hfit : a.offset + 12 * a.n ≤ 4294967295) :
    a.pointIndex base iv = (((iv : Int) - (base : Int)) / a.step) % (a.n : Int) ∧
    a.pointOffsetAt (a.pointIndex base iv) = a.offset + 12 * (a.pointIndex base iv).toNat := by
  obtain ⟨r0, r1⟩ := pointIndex_range a hn base iv
  exact ⟨pointIndex_ideal hs hn hb hi hal, pointOffsetAt_ideal r0 r1 hfit⟩

end Wsp.C06
