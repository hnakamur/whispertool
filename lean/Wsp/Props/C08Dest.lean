/-
  C08 / C11, the core clause: what `copy` (and `sum-copy`) writes into one archive of the
  destination makes a fetch of that archive over the window equal to the source series.

  Pieces: an update of a *named* archive is one ⟦archiveUpdateMany⟧ of that archive
  (`updateMany_named_eq`); it is a sequence of writes to that archive (`updateMany_named`) and
  leaves every finer archive alone (`updateMany_named_behind`); the history theorem then gives
  what each interval of the window reads after the write (`named_write_then_read`), and a fetch
  of the window returns just that (`fetchExec_reads`).
-/
import Wsp.Props.C01Batch
import Wsp.Props.C03
import Wsp.Props.C09
namespace Wsp.C08
open Wsp.Handle Wsp.Total Wsp.C01 Wsp.Cmd
variable {o : FOps} {excl : Bool}

/-- an update of archive `k` by name is one ⟦archiveUpdateMany⟧ on the points of the sorted
    batch younger than that archive's retention (nothing at all if there is none) -/
theorem updateMany_named_eq {h : Handle} {ps : List Point} {k now : Nat} {a : Arch}
    (ha : h.archs[k]? = some a) :
    h.updateMany o ps (k : Int) now =
      if (extractPoints (sortByTime ps) now a.maxRetention).1.length = 0 then .ok h
      else archiveUpdateMany o h (extractPoints (sortByTime ps) now a.maxRetention).1 k := by
  rw [C03.batch_partition, C03.route_named now k h.archs _ a ha, extractPoints_sorted _ now _ (sortByTime_sorted ps)]
  split
  · rfl
  · simp only [C03.applyRoutes]
    cases archiveUpdateMany o h _ k <;> rfl

/-- **an update of a named archive, seen from that archive**: the aligned points of the batch
    younger than its retention, written in order -/
theorem updateMany_named (o : FOps) (h h' : Handle) (g : Good h) (k : Nat) (a : Arch) (ha : h.archs[k]? = some a)
    (st : ArchState h a) (ps : List Point) (now : Nat) (hps : ∀ p ∈ ps, TimeOK a p.t)
    (hp : h.updateMany o ps (k : Int) now = .ok h') :
    ReachS a h ((alignPoints a (extractPoints (sortByTime ps) now a.maxRetention).1).map fun p => some (p.t, p.v)) h' ∧
      Good h' ∧ h'.hdr = h.hdr := by
  rw [updateMany_named_eq ha] at hp
  split at hp
  · rename_i hcur
    cases hp
    rw [List.eq_nil_of_length_eq_zero hcur]
    exact ⟨ReachS.of_sameOn (SameOn.refl a h), g, rfl⟩
  · exact archiveUpdateMany_at g ha st (fun p hp' => hps p (extract_cur_subset ps now _ p hp')) hp

/-- writes to archive `k` and everything they propagate into lie behind every finer archive -/
theorem updateMany_named_behind (o : FOps) (h h' : Handle) (g : Good h) (k i : Nat) (hik : i < k)
    (ai : Arch) (hai : h.archs[i]? = some ai) (ps : List Point) (now : Nat)
    (hp : h.updateMany o ps (k : Int) now = .ok h') : SameOn ai h h' :=
  have pfi := g.placedFrom hai
  frame_sameOn ai ((updateMany_post (P := Frame _ h) (Q := fun _ => True) (k : Int) now Frame.archs
    (fun {_ j _ _} f hk _ _ _ => .of_forall fun hm hu => f.trans (archiveUpdateMany_frameFrom (k := j)
      ((pfi.of_frame f).mono (by omega)) hu))
    (Frame.refl _ h) fun _ _ => trivial).of_ok hp) (by omega)

/-- a position is to be written: source value `v` and destination value `d` differ, and `v` is
    not an excluded NaN -/
def Differs (o : FOps) (excl : Bool) (v d : Val) : Prop := (!o.vEqual v d) = true ∧ (!(excl && o.isNaN v)) = true

instance (o : FOps) (excl : Bool) (v d : Val) : Decidable (Differs o excl v d) := by unfold Differs; exact inferInstance

/-- the written list, directly: the differing positions in order, each with its time -/
def wanted (o : FOps) (excl : Bool) (f : Nat) (S : Nat) : Nat → List Val → List Val → List Point
  | j, v :: vs, d :: ds =>
    if Differs o excl v d then ⟨f + S * j, v⟩ :: wanted o excl f S (j + 1) vs ds else wanted o excl f S (j + 1) vs ds
  | _, _, _ => []

/-- the test of ⟦DiffPoints⟧ at equal times is `Differs` -/
theorem differs_iff (v d : Val) (t : Nat) :
    ((t ≠ t ∨ (!o.vEqual v d) = true) ∧ (!decide (excl = true ∧ o.isNaN v = true)) = true) ↔ Differs o excl v d := by
  simp [Differs]

theorem not_differs {v d : Val} :
    ¬ Differs o excl v d ↔ o.vEqual v d = true ∨ (excl = true ∧ o.isNaN v = true) := by
  unfold Differs
  cases o.vEqual v d <;> cases excl <;> cases o.isNaN v <;> simp

/-- inside the zone ⟦DiffPoints⟧ of two series with the same origin lists exactly `wanted` -/
theorem diffLoop_wanted (o : FOps) (excl : Bool) (f S : Nat) (hS : 0 < S) :
    ∀ (vs ds : List Val) (j : Nat), f + S * (j + vs.length) < 2147483648 →
      (diffLoop o excl f f (S : Int) j vs ds).1 = wanted o excl f S j vs ds := by
  intro vs ds j hz
  induction vs generalizing ds j with
  | nil => cases ds <;> rfl
  | cons v vs ih =>
    cases ds with
    | nil => rfl
    | cons d ds =>
      rw [List.length_cons] at hz
      have ih' := ih ds (j + 1) (by rw [Nat.add_assoc, Nat.add_comm 1]; exact hz)
      have hj : f + S * j < 2147483648 :=
        Nat.lt_of_le_of_lt (Nat.add_le_add_left (Nat.mul_le_mul_left S (Nat.le_add_right j _)) f) hz
      simp only [diffLoop, wanted, tsAdd_i32_mul f j S hj, differs_iff]
      split <;> simp [ih']

theorem wanted_mem {f S : Nat} {vs ds : List Val} {j : Nat} {p : Point} :
    p ∈ wanted o excl f S j vs ds ↔
      ∃ i, i < vs.length ∧ i < ds.length ∧ p = ⟨f + S * (j + i), vs.getD i 0⟩ ∧
        Differs o excl (vs.getD i 0) (ds.getD i 0) := by
  induction vs generalizing ds j with
  | nil => cases ds <;> simp [wanted]
  | cons v vs ih =>
    cases ds with
    | nil => simp [wanted]
    | cons d ds =>
      -- position 0, or a position of the tails shifted by one
      simp only [wanted, List.length_cons, Nat.exists_lt_succ_left, List.getD_cons_zero, List.getD_cons_succ,
        Nat.add_lt_add_iff_right, Nat.zero_lt_succ, true_and, Nat.add_zero]
      by_cases hd : Differs o excl v d
      · rw [if_pos hd, List.mem_cons, ih]
        simp only [hd, and_true, Nat.add_assoc, Nat.add_comm 1]
      · rw [if_neg hd, ih]
        simp only [hd, and_false, false_or, Nat.add_assoc, Nat.add_comm 1]

theorem wanted_increasing (o : FOps) (excl : Bool) (f S : Nat) (hS : 0 < S) (vs ds : List Val) (j : Nat) :
    (wanted o excl f S j vs ds).Pairwise (fun p q => p.t < q.t) := by
  induction vs generalizing ds j with
  | nil => cases ds <;> simp [wanted]
  | cons v vs ih =>
    cases ds with
    | nil => simp [wanted]
    | cons d ds =>
      simp only [wanted]
      split
      · refine List.Pairwise.cons (fun q hq => ?_) (ih ds (j + 1))
        obtain ⟨i, _, _, rfl, _⟩ := wanted_mem.1 hq
        exact Nat.add_lt_add_left (Nat.mul_lt_mul_of_pos_left (by omega) hS) f
      · exact ih ds (j + 1)

/-- aligned points with strictly increasing times pass ⟦alignPoints⟧ unchanged -/
theorem alignPointsLoop_id {a : Arch} {ps acc : List Point} {prev : Nat} (first : Bool)
    (hal : ∀ p ∈ ps, a.intervalForWrite p.t = p.t) (hpw : ps.Pairwise (fun p q => p.t < q.t))
    (hprev : first = false → ∀ p ∈ ps, prev < p.t) :
    alignPointsLoop a acc prev first ps = acc.reverse ++ ps := by
  induction ps generalizing acc prev first with
  | nil => simp [alignPointsLoop]
  | cons p ps ih =>
    have hp : (⟨a.intervalForWrite p.t, p.v⟩ : Point) = p := by rw [hal p List.mem_cons_self]
    have hne : ¬ ((!first) = true ∧ p.t = prev) := fun ⟨hf, he⟩ =>
      Nat.lt_irrefl prev (he ▸ hprev (by simpa using hf) p List.mem_cons_self)
    simp only [alignPointsLoop]
    rw [if_neg hne, hp, ih false (fun q hq => hal q (List.mem_cons_of_mem _ hq)) (List.pairwise_cons.1 hpw).2
      (fun _ q hq => (hal p List.mem_cons_self).symm ▸ (List.pairwise_cons.1 hpw).1 q hq)]
    simp

/-- **a batch of grid points in increasing order, all younger than the retention, reaches
    ⟦putPoints⟧ as it is**: sort, split and alignment leave it alone -/
theorem batch_unchanged (a : Arch) (now : Nat) (pts : List Point) (hpw : pts.Pairwise (fun p q => p.t < q.t))
    (hal : ∀ p ∈ pts, a.intervalForWrite p.t = p.t) (hy : ∀ p ∈ pts, tsAdd now (- a.maxRetention) < p.t) :
    alignPoints a (extractPoints (sortByTime pts) now a.maxRetention).1 = pts := by
  have hs := sortedByT_iff.2 (hpw.imp Nat.le_of_lt)
  rw [C03.stable_sort_unique _ _ (sortByTime_sorted pts) hs (sortByTime_stable pts),
    extractPoints_sorted pts now _ hs, List.filter_eq_self.2 fun p hp => decide_eq_true (hy p hp)]
  unfold alignPoints
  rw [alignPointsLoop_id true hal hpw nofun]
  rfl

/-- within one window of at most N intervals two grid times share a slot only if equal -/
theorem cong_in_window {a : Arch} (ok : ArchOK a) {f cnt : Nat} (hc : cnt ≤ a.n) {i j : Nat} (hi : i < cnt) (hj : j < cnt)
    (h : Cong a (f + a.step.toNat * i) (f + a.step.toNat * j)) : i = j := by
  have hs := ok.1
  rw [Cong, window_cast hs, window_cast hs, Int.add_sub_add_left, ← Int.mul_sub] at h
  have h2 : (a.n : Int) ∣ (i : Int) - (j : Int) := Int.dvd_of_mul_dvd_mul_left (Int.ne_of_gt hs) h
  -- congruent residues below N are equal
  have e := Int.emod_eq_emod_iff_emod_sub_eq_zero.2 (Int.emod_eq_zero_of_dvd h2)
  rw [Int.emod_eq_of_lt (Int.natCast_nonneg i) (Int.ofNat_lt.2 (Nat.lt_of_lt_of_le hi hc)),
    Int.emod_eq_of_lt (Int.natCast_nonneg j) (Int.ofNat_lt.2 (Nat.lt_of_lt_of_le hj hc))] at e
  exact Int.natCast_inj.1 e

theorem lastCong_none_of (a : Arch) (J : Nat) (ws : List (Nat × Val)) (h : ∀ w ∈ ws, ¬ Cong a w.1 J) :
    lastCong a J ws = none := lastCong_none h

/-- a history that writes to `J`'s slot only at `J` itself, at increasing times: `J` reads the
    value written to it, and what it read before if there is none -/
theorem histValue_window (a : Arch) (J : Nat) (ws : List (Nat × Val)) (before : Nat → Val)
    (hc : ∀ w ∈ ws, Cong a w.1 J → w.1 = J) (hpw : ws.Pairwise (fun x y => x.1 < y.1)) :
    (∀ v, (J, v) ∈ ws → histValue a ws before J = v) ∧
    ((∀ w ∈ ws, w.1 ≠ J) → histValue a ws before J = before J) := by
  unfold histValue
  refine ⟨fun v hm => ?_, fun hn => by rw [lastCong_none fun w hw hcw => hn w hw (hc w hw hcw)]⟩
  obtain ⟨pre, post, rfl⟩ := List.append_of_mem hm
  rw [lastCong_mid (Cong.refl a J) fun w hw hcw => ?_]
  · simp
  · have := hc w (by simp [hw]) hcw
    have := (List.pairwise_cons.1 (List.pairwise_append.1 hpw).2.1).1 w hw
    omega

theorem intervalForWrite_aligned {a : Arch} (hs : 0 < a.step) {t : Nat} (ht : t < 4294967296) (hal : a.step ∣ (t : Int)) :
    a.intervalForWrite t = t := by
  have hid := intervalForWrite_ideal t hs ht
  unfold alignDown at hid
  have : (t : Int) % a.step = 0 := Int.emod_eq_zero_of_dvd hal
  omega

/-- what a window of archive `a` must satisfy: on the grid, inside the ring, younger than
    the retention at the clock of the copy (what ⟦fetchPlan⟧ produces inside the zone) -/
structure WinZone (a : Arch) (f cnt now : Nat) : Prop where
  ok : ArchOK a
  al : a.step ∣ (f : Int)
  f0 : f ≠ 0  -- a base interval 0 marks "never written"
  hi : f + a.step.toNat * cnt < 2147483648
  cnt_le : cnt ≤ a.n
  young : tsAdd now (- a.maxRetention) < f

theorem WinZone.grid {a : Arch} {f cnt now : Nat} (z : WinZone a f cnt now) {i : Nat} (hi : i < cnt) :
    AbsGrid a (f + a.step.toNat * i) ∧ TimeOK a (f + a.step.toNat * i) ∧
      tsAdd now (- a.maxRetention) < f + a.step.toNat * i := by
  have hle : f ≤ f + a.step.toNat * i := Nat.le_add_right _ _
  have hlt : f + a.step.toNat * i < 2147483648 :=
    Nat.lt_of_le_of_lt (Nat.add_le_add_left (Nat.mul_le_mul_left _ (Nat.le_of_lt hi)) f) z.hi
  have hfge : a.step ≤ (f : Int) := Int.le_of_dvd (Int.natCast_pos.2 (Nat.pos_of_ne_zero z.f0)) z.al
  have hd : a.step ∣ ((f + a.step.toNat * i : Nat) : Int) := by
    rw [window_cast z.ok.1]; exact Int.dvd_add z.al (Int.dvd_mul_right _ _)
  exact ⟨⟨hlt, hd, fun e => z.f0 (Nat.eq_zero_of_add_eq_zero_right e)⟩,
    ⟨hlt, Int.le_trans hfge (Int.ofNat_le.2 hle)⟩, Nat.lt_of_lt_of_le z.young hle⟩

/-- **the write of one archive, read back**: after the differing points of the window have
    been written to archive `k` by name, every interval of the window reads the source value
    where the two differed (and the source value was to be copied), and what it read before
    elsewhere -/
theorem named_write_then_read (o : FOps) (excl : Bool) (h h' : Handle) (g : Good h) (k : Nat) (a : Arch)
    (ha : h.archs[k]? = some a) (st : ArchState h a) (f cnt now : Nat) (z : WinZone a f cnt now)
    (vs ds : List Val) (hvs : vs.length = cnt) (hds : ds.length = cnt)
    (hbefore : ∀ j, j < cnt → ds.getD j 0 = ringValue h a (slotAt h a 0).t (f + a.step.toNat * j))
    (hp : h.updateMany o (wanted o excl f a.step.toNat 0 vs ds) (k : Int) now = .ok h') :
    ArchState h' a ∧ Good h' ∧ h'.hdr = h.hdr ∧
    ∀ j, j < cnt → ringValue h' a (slotAt h' a 0).t (f + a.step.toNat * j) =
      if Differs o excl (vs.getD j 0) (ds.getD j 0) then vs.getD j 0 else ds.getD j 0 := by
  have hs := z.ok.1
  have hS : 0 < a.step.toNat := Int.pos_iff_toNat_pos.1 hs
  have hmem := fun p => @wanted_mem o excl f a.step.toNat vs ds 0 p
  have hpw := wanted_increasing o excl f a.step.toNat hS vs ds 0
  -- of the written list only its members and their order are used from here on
  generalize wanted o excl f a.step.toNat 0 vs ds = pts at hp hmem hpw
  simp only [Nat.zero_add, hvs, hds] at hmem
  have hgrid : ∀ p ∈ pts, AbsGrid a p.t ∧ TimeOK a p.t ∧ tsAdd now (- a.maxRetention) < p.t := fun p hp' => by
    obtain ⟨i, hi, _, rfl, _⟩ := (hmem p).1 hp'; exact z.grid hi
  have hsame := batch_unchanged a now pts hpw
    (fun p hp' => intervalForWrite_aligned hs (Nat.lt_trans (hgrid p hp').1.1 (by decide)) (hgrid p hp').1.2.1)
    fun p hp' => (hgrid p hp').2.2
  obtain ⟨r, g', hh⟩ := updateMany_named o h h' g k a ha st pts now (fun p hp' => (hgrid p hp').2.1) hp
  rw [hsame] at r
  have hw := writesOf_points pts
  obtain ⟨st', hist⟩ := reachS_reads st (fun w hw' => by
    obtain ⟨p, hp', rfl⟩ := List.mem_map.1 (hw ▸ hw')
    exact (hgrid p hp').1) r
  rw [hw] at hist
  refine ⟨st', g', hh, fun j hj => ?_⟩
  -- in the window a write shares `j`'s slot only if it is to `j`
  obtain ⟨hin, hout⟩ := histValue_window a (f + a.step.toNat * j) (pts.map fun p => (p.t, p.v))
    (ringValue h a (slotAt h a 0).t)
    (fun w hw' hc => by
      obtain ⟨p, hp', rfl⟩ := List.mem_map.1 hw'
      obtain ⟨i, hi, _, rfl, _⟩ := (hmem p).1 hp'
      rw [cong_in_window z.ok z.cnt_le hi hj hc])
    (List.pairwise_map.2 hpw)
  rw [hist _ (z.grid hj).1]
  split
  · rename_i hd
    exact hin _ (List.mem_map.2 ⟨_, (hmem _).2 ⟨j, hj, hj, rfl, hd⟩, rfl⟩)
  · rename_i hd
    rw [hbefore j hj]
    refine hout fun w hw' e => hd ?_
    obtain ⟨p, hp', rfl⟩ := List.mem_map.1 hw'
    obtain ⟨i, _, _, rfl, hdi⟩ := (hmem p).1 hp'
    obtain rfl : i = j := Nat.eq_of_mul_eq_mul_left hS (Nat.add_left_cancel e)
    exact hdi

/-- the series a fetch of the window returns: position `j` holds what interval `f + S·j` reads -/
def readSeries (h : Handle) (a : Arch) (f cnt : Nat) : Series :=
  ⟨f, f + a.step.toNat * cnt, a.step, (List.range cnt).map fun j => ringValue h a (slotAt h a 0).t (f + a.step.toNat * j)⟩

/-- **executing the planned fetch of the window reads the ring**, whether the archive has
    been written or not -/
theorem fetchExec_reads (h : Handle) (a : Arch) (st : ArchState h a) (f cnt now : Nat) (z : WinZone a f cnt now)
    (hc : 0 < cnt) (p : FetchPlan) (hpa : p.a = a) (hpf : p.fromI = f) (hpu : p.untilI = f + a.step.toNat * cnt) :
    h.fetchExec p = .ok (readSeries h a f cnt) := by
  subst hpa
  obtain ⟨hs, hn, hr⟩ := z.ok
  rcases st with fr | ⟨lv, albase⟩
  · -- never written: `cnt` NaNs, the count computed in uint32
    have hcnt : u32 (((f + p.a.step.toNat * cnt : Nat) : Int) - (f : Int)) / u32 p.a.step = cnt := by
      have hx : ((f + p.a.step.toNat * cnt : Nat) : Int) - f = p.a.step * cnt := by
        rw [window_cast hs, Int.add_comm, Int.add_sub_cancel]
      have hlt : p.a.step * (cnt : Int) < 4294967296 := by
        have := z.hi
        clear hpu
        omega
      apply Int.natCast_inj.1
      rw [hx, u32_div_ideal _ _ (Int.mul_nonneg (Int.le_of_lt hs) (Int.natCast_nonneg cnt)) hlt hs
        (Int.lt_trans z.ok.step_lt (by decide)), Int.mul_ediv_cancel_left _ (Int.ne_of_gt hs)]
    unfold fetchExec readSeries
    rw [fr.baseInterval]
    simp only [if_true, hpf, hpu, hcnt]
    congr 2
    refine (List.eq_replicate_iff.2 ⟨by simp, fun v hv => ?_⟩).symm
    obtain ⟨j, _, rfl⟩ := List.mem_map.1 hv
    exact fr.reads_nan fun e => z.f0 (Nat.eq_zero_of_add_eq_zero_right e)
  · obtain ⟨zr, hwc⟩ := RingZone.window (base := (slotAt h p.a 0).t) cnt hs hn hr lv.blt
      (Int.dvd_sub z.al albase) hc z.cnt_le z.hi
    rw [fetch_refines_ring h p _ (by rw [hpf, hpu]; exact zr) lv.baseInterval lv.b0 lv.view lv.fit]
    unfold readSeries
    rw [hpf, hpu, hwc]

theorem diffPoints_wanted {h : Handle} {a : Arch} (hs : 0 < a.step) {f cnt : Nat} {vs : List Val}
    (hvs : vs.length = cnt) (hhi : f + a.step.toNat * cnt < 2147483648) :
    (diffPoints o excl (some ⟨f, f + a.step.toNat * cnt, a.step, vs⟩) (some (readSeries h a f cnt))).1 =
      wanted o excl f a.step.toNat 0 vs (readSeries h a f cnt).values := by
  unfold diffPoints
  rw [if_neg (by simp [sValues, readSeries, hvs])]
  simp only [sFrom, sStep, sValues, readSeries]
  rw [← Int.toNat_of_nonneg (Int.le_of_lt hs)]
  exact diffLoop_wanted o excl f a.step.toNat (by omega) vs _ 0 (by rw [hvs]; simpa using hhi)

/-- **one archive of a copy**: fetch the window, write the differing points by name; then
    every interval of the window reads a value `Equal` to the source's — or the source's is
    a NaN that was not to be copied -/
theorem copy_step (o : FOps) (hl : FLaws o) (excl : Bool) (h h' : Handle) (g : Good h) (k : Nat) (a : Arch)
    (ha : h.archs[k]? = some a) (st : ArchState h a) (f cnt now : Nat) (z : WinZone a f cnt now)
    (vs : List Val) (hvs : vs.length = cnt)
    (hp : h.updateMany o (diffPoints o excl (some ⟨f, f + a.step.toNat * cnt, a.step, vs⟩)
            (some (readSeries h a f cnt))).1 (k : Int) now = .ok h') :
    ArchState h' a ∧ Good h' ∧ h'.hdr = h.hdr ∧
    ∀ j, j < cnt →
      o.vEqual (vs.getD j 0) (ringValue h' a (slotAt h' a 0).t (f + a.step.toNat * j)) = true ∨
      (excl = true ∧ o.isNaN (vs.getD j 0) = true) := by
  have hs := z.ok.1
  rw [diffPoints_wanted hs hvs z.hi] at hp
  obtain ⟨st', g', hh, hread⟩ := named_write_then_read o excl h h' g k a ha st f cnt now z vs _ hvs
    (by simp [readSeries]) (fun j hj => by simp [readSeries, hj]) hp
  refine ⟨st', g', hh, fun j hj => ?_⟩
  rw [hread j hj]
  split
  · exact Or.inl (C09.vEqual_refl hl _)
  · rename_i hd
    exact not_differs.1 hd

end Wsp.C08
