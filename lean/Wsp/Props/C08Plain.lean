/-
  C08 under plain conditions: two existing files with the same archive list, both satisfying
  the invariant of files whispertool writes; the clock inside the zone of every archive and
  the requested window reaching every archive.  Then `copy` (NaN values included, all
  archives) followed by `diff` of the same pair, same window, same clock, reports nothing.
  All the window bookkeeping of `copyOne_then_diffOne_clean` is discharged here.  The same when
  no file stands under the destination path and the copy creates it with the layout it was
  given (`copy_creates_then_diff_plain`).
-/
import Wsp.Props.C08Full
import Wsp.Props.C18Cmd
namespace Wsp.C08
open Wsp.Total Wsp.Cmd Wsp.Inv Wsp.C18

variable {o : FOps} {t t1 : Tree} {dst : String} {c : CopyOpts} {w : Window} {hd : Handle} {L k : Nat} {a : Arch}
  {f cnt : Nat}

theorem winSpec_of_archs {h h' : Handle} (sp : WinSpec h w k a f cnt) (e : h'.archs = h.archs) : WinSpec h' w k a f cnt :=
  ⟨e ▸ sp.arch, sp.pos, sp.zone, e ▸ sp.plan⟩

/-- a window specification, a source series of its shape, and a window that starts late
    enough make the specification of one archive of a copy -/
theorem ArchSpec.of_win {ls : List (Option Series)} {vs : List Val} (sp : WinSpec hd w k a f cnt)
    (hsrc : ls.getD k none = some ⟨f, f + a.step.toNat * cnt, a.step, vs⟩) (hlen : vs.length = cnt)
    (hnow : (w.now : Int) + 2 * a.step < 2147483648) (hL : (L : Int) + a.step * (a.n : Int) ≤ w.now) :
    ArchSpec hd ls w L k a f cnt vs := by
  refine ⟨sp.arch, hsrc, hlen, sp.pos, sp.zone, ?_, sp.plan⟩
  have hcut := C04.cutoff_ideal (now := w.now) sp.zone.ok
    (Int.le_trans (Int.le_add_of_nonneg_left (Int.natCast_nonneg L)) hL) (by have := sp.zone.ok.1; omega)
  exact Int.ofNat_le.1 <| calc
    (L : Int) ≤ w.now - a.step * a.n := Int.le_sub_right_of_add_le hL
    _ = tsAdd w.now (- a.maxRetention) := hcut.symm
    _ ≤ f := Int.le_of_lt (Int.ofNat_lt.2 sp.zone.young)

/-- **a copy, then the comparison, under plain conditions**, for any source reader that does
    not look at the destination and, through the destination's window specifications,
    returns one series of the window's shape per archive -/
theorem copyWith_then_clean_plain (hl : FLaws o) {rd : Tree → R (Header × List (Option Series))} (chk : Bool)
    (hlay : LayInRange c.lay) (hall : w.archiveID = -1)
    (hrd : Blind dst rd)
    (hoc : openOrCreate o t dst c = .ok (t1, hd)) (ald : AllState hd) (co : Coarse hd L)
    (hfu : w.from_ ≤ w.until') (hfn : w.from_ ≤ w.now)
    (hz : ∀ a ∈ hd.archs, ¬ w.until' < tsAdd w.now (- a.maxRetention) ∧ a.step * (a.n : Int) ≤ w.now ∧
      (w.now : Int) + 2 * a.step < 2147483648 ∧ (L : Int) + a.step * (a.n : Int) ≤ w.now)
    (hsrc : ∀ (A : Nat → Arch) (F C : Nat → Nat), (∀ k, k < hd.archs.length → WinSpec hd w k (A k) (F k) (C k)) →
      ∃ (hs : Header) (ls : List (Option Series)), rd t1 = .ok (hs, ls) ∧ ls.length = hd.archs.length ∧
        ∀ k, k < hd.archs.length →
          ∃ vs, ls.getD k none = some ⟨F k, F k + (A k).step.toNat * C k, (A k).step, vs⟩ ∧ vs.length = C k)
    (hok : (copyWith o rd false t dst c w).2.1 = .ok) :
    diffWith o chk (rd (copyWith o rd false t dst c w).1)
      (readFile o (copyWith o rd false t dst c w).1 dst w.archiveID w.from_ w.until' w.now) = (.ok, []) := by
  obtain ⟨A, F, C, hspecD⟩ := winSpecs_exist (openOrCreate_isGood hlay hoc) hfu hfn
    (fun a ha => ⟨(hz a ha).1, (hz a ha).2.1, (hz a ha).2.2.1⟩)
  obtain ⟨hs, ls, hrs, hlen, hV⟩ := hsrc A F C hspecD
  apply copyWith_then_clean hl chk L A F C (fun k => sValues (ls.getD k none)) hlay hall hrd ?_ hok
  intro t1' hd' hs' ls' hoc' hrd'
  cases hoc.symm.trans hoc'
  cases hrs.symm.trans hrd'
  refine ⟨ald, co, hlen, fun k hk => ?_⟩
  obtain ⟨vs, e, hvs⟩ := hV k hk
  have hzk := (hz _ (List.mem_of_getElem? (hspecD k hk).arch)).2.2
  exact ArchSpec.of_win (hspecD k hk) (by rw [e]; rfl) (by rw [e]; exact hvs) hzk.1 hzk.2

/-- the source side of `copy` under plain conditions: a file with the destination's archive
    list reads, through the destination's window specifications, one series per archive -/
theorem readFile_src {src : String} {bs : Bytes} {hsH : Handle}
    (hgs : t.get src = some bs) (hos : openBytes o bs = .ok hsH) (als : AllState hsH) (hall : w.archiveID = -1)
    (hsame : hsH.archs = hd.archs) (A : Nat → Arch) (F C : Nat → Nat)
    (hspecD : ∀ k, k < hd.archs.length → WinSpec hd w k (A k) (F k) (C k)) :
    ∃ (hs : Header) (ls : List (Option Series)), readFile o t src w.archiveID w.from_ w.until' w.now = .ok (hs, ls) ∧
      ls.length = hd.archs.length ∧ ∀ k, k < hd.archs.length →
        ∃ vs, ls.getD k none = some ⟨F k, F k + (A k).step.toNat * C k, (A k).step, vs⟩ ∧ vs.length = C k := by
  have hrs := readFile_win o t src bs hsH w A F C hgs hos als hall
    (fun k hk => winSpec_of_archs (hspecD k (hsame ▸ hk)) hsame)
  rw [hsame] at hrs
  exact ⟨_, _, hrs, by simp, fun k hk => ⟨_, by rw [getD_range_map hk]; rfl, by simp⟩⟩

/-- **copy, then diff, under plain conditions** (`hnew`: `openOrCreate` validates the creation options even when the
    destination exists) -/
theorem copy_then_diff_plain (o : FOps) (hl : FLaws o) (t : Tree) (src dst : String) (c : CopyOpts) (w : Window)
    (bs bd : Bytes) (hsH hd : Handle) (L : Nat)
    (hlay : LayInRange c.lay) (hnew : ∃ x, newHeader o c.agg c.xff c.lay = .ok x)
    (hnan : c.copyNaN = true) (hall : w.archiveID = -1) (hne : src ≠ dst)
    (hgs : t.get src = some bs) (hos : openBytes o bs = .ok hsH) (als : AllState hsH)
    (hgd : t.get dst = some bd) (hod : openBytes o bd = .ok hd) (ald : AllState hd)
    (hsame : hsH.archs = hd.archs) (co : Coarse hd L)
    (hfu : w.from_ ≤ w.until') (hfn : w.from_ ≤ w.now)
    (hz : ∀ a ∈ hd.archs, ¬ w.until' < tsAdd w.now (- a.maxRetention) ∧ a.step * (a.n : Int) ≤ w.now ∧
      (w.now : Int) + 2 * a.step < 2147483648 ∧ (L : Int) + a.step * (a.n : Int) ≤ w.now)
    (hok : (copyOne o t src dst c w).2.1 = .ok) :
    diffOne o (copyOne o t src dst c w).1 src dst w = (.ok, []) := by
  rw [copyOne_with, hnan] at hok ⊢
  exact copyWith_then_clean_plain hl true hlay hall (readFile_blind hne) (openOrCreate_existing hnew hgd hod) ald co
    hfu hfn hz (readFile_src hgs hos als hall hsame) hok

/-- **copy into a path that holds no file, then diff**: the copy creates the destination and
    fills it; the diff that follows finds nothing -/
theorem copy_creates_then_diff_plain (o : FOps) (hl : FLaws o) (t : Tree) (src dst : String) (c : CopyOpts) (w : Window)
    (bs disk : Bytes) (hsH hd : Handle) (L : Nat)
    (hlay : LayInRange c.lay)
    (hnan : c.copyNaN = true) (hall : w.archiveID = -1) (hne : src ≠ dst)
    (hgs : t.get src = some bs) (hos : openBytes o bs = .ok hsH) (als : AllState hsH)
    (hgd : t.get dst = none) (hcr : createHandle o c.agg c.xff c.lay = .ok (disk, hd))
    (hsame : hsH.archs = hd.archs) (co : Coarse hd L)
    (hfu : w.from_ ≤ w.until') (hfn : w.from_ ≤ w.now)
    (hz : ∀ a ∈ hd.archs, ¬ w.until' < tsAdd w.now (- a.maxRetention) ∧ a.step * (a.n : Int) ≤ w.now ∧
      (w.now : Int) + 2 * a.step < 2147483648 ∧ (L : Int) + a.step * (a.n : Int) ≤ w.now)
    (hok : (copyOne o t src dst c w).2.1 = .ok) :
    diffOne o (copyOne o t src dst c w).1 src dst w = (.ok, []) := by
  have hoc : openOrCreate o t dst c = .ok (t.set dst hd.view, hd) := by
    simp only [openOrCreate, (createHandle_ok_iff.1 hcr).1, hgd, hcr]
  rw [copyOne_with, hnan] at hok ⊢
  exact copyWith_then_clean_plain hl true hlay hall (readFile_blind hne) hoc
    (created_allstate o c.agg c.xff c.lay hlay disk hd hcr) co hfu hfn hz
    (readFile_src (by rw [get_set_ne hne]; exact hgs) hos als hall hsame) hok

end Wsp.C08
