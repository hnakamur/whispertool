/-
  C08  copy makes the destination equal to the source over the requested window.

  Proved of the command model (`Cmd.copyOne`, with the repaired per-archive re-diff):
  the source is never modified; a missing destination is created with the requested
  layout even when nothing is copied or the copy fails later; a layout mismatch writes
  nothing; when there is no difference nothing is written; every point written is a point
  of the source series, NaN source points only with copy-nan (`written_are_source_points`);
  with a glob the matched files are copied pairwise in order, stopping at the first error.
  That after success every interval of every selected archive's window reads the source's
  value is proved in the later C08 modules, for files satisfying the ring invariant and a
  window inside the clock zone: `copyCore_agrees` / `copyCore_agrees_one` (the published
  handle agrees with the source), `copy_then_diff_clean` … `copy_then_diff_plain`,
  `copy_creates_then_diff_plain` (a `diff` right after the copy reports nothing).  Outside
  those hypotheses it is asserted on the real code on every run (post-check: diff over the
  same window right after a successful copy; repeating the copy writes nothing).
-/
import Wsp.Props.C09
namespace Wsp.C08
open Wsp.Cmd

variable {o : FOps} {t t' : Tree} {dst q : String} {c : CopyOpts} {h hd : Handle}

theorem openOrCreate_other (ho : openOrCreate o t dst c = .ok (t', h)) (hq : q ≠ dst) : t'.get q = t.get q := by
  rcases openOrCreate_ok ho with ⟨_, _, _, rfl⟩ | ⟨_, rfl, _⟩
  · rfl
  · exact get_set_ne hq

/-- a missing destination is created (with the requested layout, header synced) as soon as
    the destination is opened — whatever happens afterwards -/
theorem openOrCreate_creates (o : FOps) (t t' : Tree) (dst : String) (c : CopyOpts) (h : Handle)
    (hmiss : t.get dst = none) (ho : openOrCreate o t dst c = .ok (t', h)) :
    t'.get dst = some h.view ∧ ∃ disk, createHandle o c.agg c.xff c.lay = .ok (disk, h) := by
  rcases openOrCreate_ok ho with ⟨b, hb, _⟩ | ⟨_, rfl, hc⟩
  · rw [hmiss] at hb; cases hb
  · exact ⟨get_set_same, hc⟩

theorem copyCore_other {sa : List Arch} {ls : List (Option Series)} {w : Window} {ex : Bool} (hq : q ≠ dst) :
    (copyCore o t dst hd sa ls w ex).1.get q = t.get q := by
  rcases copyCore_tree_or o t dst hd sa ls w ex with h | ⟨_, _, h⟩ <;> rw [h]
  exact get_set_ne hq

theorem copyWith_other {rd : Tree → R (Header × List (Option Series))} {ex : Bool} {w : Window} (hq : q ≠ dst) :
    (copyWith o rd ex t dst c w).1.get q = t.get q := by
  rcases copyWith_ends o rd ex t dst c w with ⟨_, _, h⟩ | ⟨t1, hd, hoc, ⟨_, _, h⟩ | ⟨_, _, _, h⟩⟩ <;> rw [h]
  · exact openOrCreate_other hoc hq
  · rw [copyCore_other hq]
    exact openOrCreate_other hoc hq

/-- **the source is never modified** (nor any file other than the destination) -/
theorem source_untouched (o : FOps) (t : Tree) (src dst q : String) (c : CopyOpts) (w : Window)
    (hq : q ≠ dst) : (copyOne o t src dst c w).1.get q = t.get q :=
  copyWith_other hq

/-- **a missing destination is created**: it is there after the `copy`, even when nothing was
    copied or the copy failed after the destination was opened -/
theorem creates_missing_dest (o : FOps) (t : Tree) (src dst : String) (c : CopyOpts) (w : Window)
    (hmiss : t.get dst = none) (t' : Tree) (hd : Handle) (ho : openOrCreate o t dst c = .ok (t', hd)) :
    ((copyOne o t src dst c w).1.get dst).isSome = true := by
  have hc := (openOrCreate_creates o t t' dst c hd hmiss ho).1
  simp only [copyOne, ho]
  cases readFile o t' src w.archiveID w.from_ w.until' w.now with
  | error e => simp only [hc, Option.isSome_some]
  | ok r =>
    obtain ⟨hs, ls⟩ := r
    rcases copyCore_tree_or o t' dst hd hs.archives ls w (!c.copyNaN) with h' | ⟨_, _, h'⟩
    · simp only [h', hc, Option.isSome_some]
    · simp only [h', get_set_same, Option.isSome_some]

/-- **a layout mismatch is reported without writing anything** -/
theorem mismatch_writes_no_point (o : FOps) (t : Tree) (dst : String) (hd : Handle) (sa : List Arch)
    (ls : List (Option Series)) (w : Window) (ex : Bool) (ld : List (Option Series))
    (hf : fetchList hd w.archiveID w.from_ w.until' w.now = .ok ld)
    (hne : layoutsEqual sa hd.archs = false) :
    copyCore o t dst hd sa ls w ex = (t, .err .mismatch, []) := by
  unfold copyCore
  simp [hf, hne]

/-- **nothing to copy writes nothing** (this is what makes a repeated copy a no-op once the
    destination equals the source) -/
theorem no_difference_writes_nothing (o : FOps) (t : Tree) (dst : String) (hd : Handle) (sa : List Arch)
    (ls ld : List (Option Series)) (w : Window) (ex : Bool)
    (hf : fetchList hd w.archiveID w.from_ w.until' w.now = .ok ld)
    (hl : layoutsEqual sa hd.archs = true) (hr : rangesEqual ls ld = true)
    (he : allEmpty (diffLists o ex ls ld).1 = true ∧ allEmpty (diffLists o ex ls ld).2 = true) :
    copyCore o t dst hd sa ls w ex = (t, .ok, []) := by
  unfold copyCore
  simp [hf, hl, hr, he.1, he.2]

/-- every point `DiffPoints` hands over for writing is a point of the source series, and
    without copy-nan none of them is NaN -/
theorem written_are_source_points (o : FOps) (exclNaN : Bool) (f1 f2 : Nat) (step : Int) :
    ∀ (i : Nat) (vs vs2 : List Val) (p : Point), p ∈ (diffLoop o exclNaN f1 f2 step i vs vs2).1 →
      p ∈ seriesPointsFrom f1 step i vs ∧ (exclNaN = true → o.isNaN p.v = false) := by
  intro i vs vs2 p hp
  induction vs generalizing i vs2 with
  | nil => cases vs2 <;> simp [diffLoop] at hp
  | cons v vs ih =>
    cases vs2 with
    | nil => simp [diffLoop] at hp
    | cons v2 vs2 =>
      simp only [diffLoop] at hp
      rw [seriesPointsFrom, List.mem_cons]
      split at hp
      · rename_i hc
        rcases List.mem_cons.1 hp with rfl | hp
        · exact ⟨Or.inl rfl, fun hex => by simpa [hex] using hc.2⟩
        · exact (ih (i + 1) vs2 hp).imp_left Or.inr
      · exact (ih (i + 1) vs2 hp).imp_left Or.inr

/-- with a glob, the matched files are copied pair by pair in order: a pair that ends `ok`
    hands its tree to the rest of the run -/
theorem glob_next (o : FOps) (c : CopyOpts) (w : Window) (t t' : Tree) (s d : String)
    (rest : List (String × String)) (recs : List Rec) (h : copyOne o t s d c w = (t', .ok, recs)) :
    copyMany o c w t ((s, d) :: rest) =
      ((copyMany o c w t' rest).1, (copyMany o c w t' rest).2.1, recs :: (copyMany o c w t' rest).2.2) := by
  simp only [copyMany, h]

/-- with a glob, the first pair that does not end `ok` ends the run, with its tree and outcome -/
theorem glob_stops (o : FOps) (c : CopyOpts) (w : Window) (t t' : Tree) (s d : String)
    (rest : List (String × String)) (oc : Outcome) (recs : List Rec)
    (h : copyOne o t s d c w = (t', oc, recs)) (hne : oc ≠ .ok) :
    copyMany o c w t ((s, d) :: rest) = (t', oc, [recs]) := by
  cases oc with
  | ok => exact absurd rfl hne
  | _ => simp only [copyMany, h]

end Wsp.C08
