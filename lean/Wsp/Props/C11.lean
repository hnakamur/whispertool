/-
  C11  sum-copy stores the sum; sum-diff agrees with it.

  `sumCopy` is the copy core (always in NaN mode) applied to the series `sum` computes,
  and `sumDiff` is the diff core applied to them: so everything proved of the copy core
  (C08) and of diff (C09) transfers, with the sum of C10 as the source.  A missing
  destination is a reported difference (repaired).  "After sum-copy the destination
  holds exactly the sum" is `C08.copyCore_agrees` with the sum as the source, and
  `C08.sumcopy_then_sumdiff_clean`, `sumCopy_then_sumDiff_clean`, `sumcopy_then_sumdiff_plain`
  (C11Plain): sum-diff right after a successful sum-copy over the same window is clean — under
  the ring invariant and inside the clock zone; otherwise asserted on the real code.  With
  several items in one run of sum-diff every item is compared, and one item that differs makes
  the run report a difference (`items_any`).
-/
import Wsp.Props.C08
namespace Wsp.C11
open Wsp.Cmd

/-- sum-copy is copy with the sum as its source, never skipping NaN -/
theorem sum_copy_is_copy_of_sum (o : FOps) (t : Tree) (files : List String) (dst : String)
    (c : CopyOpts) (w : Window) (t' : Tree) (hd : Handle) (hs : Header) (ls : List (Option Series))
    (ho : openOrCreate o t dst c = .ok (t', hd)) (hsum : sumFiles o t' files w = .ok (hs, ls)) :
    sumCopy o t files dst c w = copyCore o t' dst hd hs.archives ls w false := by
  unfold sumCopy
  simp only [ho, hsum]

theorem sources_untouched (o : FOps) (t : Tree) (files : List String) (dst q : String)
    (c : CopyOpts) (w : Window) (hq : q ≠ dst) : (sumCopy o t files dst c w).1.get q = t.get q :=
  C08.copyWith_other hq

theorem sum_diff_missing_is_difference (o : FOps) (t : Tree) (files : List String) (dst : String) (w : Window)
    (hm : t.get dst = none) : (sumDiff o t files dst w).1 = .diffFound := by
  rw [sumDiff_with]
  exact diffWith_missing (Or.inr (readFile_missing hm))

/-- sum-diff is clean exactly when no slot of the destination deviates from the sum
    (equal layouts): the verdict is `diffLists` of the sum against the destination -/
theorem sum_diff_found_iff (o : FOps) (t : Tree) (files : List String) (dst : String) (w : Window)
    (hs : Header) (ls : List (Option Series)) (hd : Header) (ld : List (Option Series))
    (h1 : sumFiles o t files w = .ok (hs, ls))
    (h2 : readFile o t dst w.archiveID w.from_ w.until' w.now = .ok (hd, ld))
    (hl : layoutsEqual hs.archives hd.archives = true) :
    (sumDiff o t files dst w).1 =
      if allEmpty (diffLists o false ls ld).1 && allEmpty (diffLists o false ls ld).2 then .ok else .diffFound := by
  unfold sumDiff
  simp only [h1, h2, hl, Bool.not_true, Bool.false_eq_true, if_false]
  split <;> rfl

theorem items_any (o : FOps) (t : Tree) (w : Window) (items : List (List String × String))
    (hall : ∀ p ∈ items, (sumDiff o t p.1 p.2 w).1 = .ok ∨ (sumDiff o t p.1 p.2 w).1 = .diffFound) :
    ∀ found, (sumDiffMany o t w items found).1 =
      if found ∨ ∃ p ∈ items, (sumDiff o t p.1 p.2 w).1 = .diffFound then .diffFound else .ok := by
  intro found
  rw [sumDiffMany_verdict]
  exact verdict_map_any _ _ hall found

theorem earlier_difference_is_kept (o : FOps) (t : Tree) (w : Window) (first : List String × String)
    (rest : List (List String × String))
    (h1 : (sumDiff o t first.1 first.2 w).1 = .diffFound)
    (hrest : ∀ p ∈ rest, (sumDiff o t p.1 p.2 w).1 = .ok) :
    (sumDiffMany o t w (first :: rest) false).1 = .diffFound := by
  refine (items_any o t w _ (fun p hp => ?_) false).trans (if_pos (Or.inr ⟨first, List.mem_cons_self, h1⟩))
  rcases List.mem_cons.1 hp with rfl | hp
  · exact Or.inr h1
  · exact Or.inl (hrest p hp)

end Wsp.C11
