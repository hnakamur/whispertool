/-
  C03  Write acceptance and routing to the finest archive covering a point's age.

  * single update: rejected exactly when the point is in the future or not younger than
    the file's maximum retention (`single_accept_iff`, closed form inside the zone); an
    accepted point goes to the first archive whose retention reaches its age
    (`single_route`, with C04.best_archive) and lands in the slot of its aligned interval
    (C01.write_lands);
  * batch update: after the stable time sort, archive `i` receives exactly the points
    `p` with `now − ret_i < p.t` that no finer archive took (`batch_partition`); nothing
    in range is dropped or diverted, whatever else is in the batch;
  * the sort is a stable sort (`sortByTime_perm/sorted/stable`), and a stable sort is
    unique (`stable_sort_unique`), so the result does not depend on the input order except
    for the relative order of points with equal timestamps (`order_independent`).
-/
import Wsp.Proofs.Slots
import Wsp.Props.C04
namespace Wsp.C03
open Wsp.Handle

/-- the acceptance test of ⟦UpdatePointForArchive⟧ -/
def Accepts (h : Handle) (t now : Nat) : Prop := ¬ (t ≤ tsAdd now (- h.hdr.maxRet) ∨ now < t)

theorem single_reject (o : FOps) (h : Handle) (k : Int) (t : Nat) (v : Val) (now : Nat)
    (hr : ¬ Accepts h t now) : h.updatePoint o k t v now = .error (.err .notCovered) := by
  unfold updatePoint
  rw [if_pos (Classical.not_not.1 hr)]

theorem single_accept_iff (h : Handle) (t now : Nat) (hM0 : 0 ≤ h.hdr.maxRet)
    (hclock : h.hdr.maxRet ≤ now) (hnow : now < 4294967296) :
    Accepts h t now ↔ (t ≤ now ∧ (now : Int) - t < h.hdr.maxRet) := by
  unfold Accepts
  have := tsAdd_ideal now (- h.hdr.maxRet) (by omega) (by omega)
  omega

/-- an accepted single update with archive "best" goes to `findBestArchive`, aligned to
    that archive's step, through the slot offset of its interval, then propagates from there -/
theorem single_route (o : FOps) (h h' : Handle) (t : Nat) (v : Val) (now : Nat)
    (hok : h.updatePoint o (-1) t v now = .ok h') :
    Accepts h t now ∧
    ∃ a off hm, h.archs[h.findBestArchive t now]? = some a ∧
      h.getPointOffset (a.intervalForWrite t) a = .ok off ∧
      h.putPointAt ⟨a.intervalForWrite t, v⟩ off = .ok hm ∧
      propagateChain o hm (h.findBestArchive t now) [⟨a.intervalForWrite t, v⟩] = .ok h' :=
  updatePoint_eq_ok hok

/-- which points a batch update hands to which archive: the loop of
    ⟦UpdatePointsForArchive⟧ without the writes -/
def routeLoop (k : Int) (now : Nat) : List Point → Nat → List Arch → List (Nat × List Point)
  | _, _, [] => []
  | ps, i, a :: as =>
    if k ≠ -1 ∧ k ≠ (i : Int) then routeLoop k now ps (i + 1) as
    else
      let cur := ps.filter (fun p => decide (tsAdd now (- a.maxRetention) < p.t))
      let rest := ps.filter (fun p => decide (p.t ≤ tsAdd now (- a.maxRetention)))
      if cur.length = 0 then routeLoop k now rest (i + 1) as
      else (i, cur) :: routeLoop k now rest (i + 1) as

/-- performing the routed writes in order -/
def applyRoutes (o : FOps) : Handle → List (Nat × List Point) → R Handle
  | h, [] => .ok h
  | h, (i, ps) :: rest =>
    match archiveUpdateMany o h ps i with
    | .error e => .error e
    | .ok h' => applyRoutes o h' rest

theorem updateManyLoop_routes (o : FOps) (k : Int) (now : Nat) (as : List Arch) (h : Handle) (ps : List Point)
    (i : Nat) (hs : SortedByT ps) :
    updateManyLoop o k now h ps i as = applyRoutes o h (routeLoop k now ps i as) := by
  induction as generalizing h ps i with
  | nil => rfl
  | cons a as ih =>
    simp only [updateManyLoop, routeLoop]
    by_cases hk : k ≠ -1 ∧ k ≠ (i : Int)
    · rw [if_pos hk, if_pos hk]
      exact ih h ps (i + 1) hs
    · rw [if_neg hk, if_neg hk, extractPoints_sorted ps now a.maxRetention hs]
      dsimp only
      split
      · exact ih h _ (i + 1) (hs.filter _)
      · simp only [applyRoutes]
        cases archiveUpdateMany o h _ i with
        | error e => rfl
        | ok h' => exact ih h' _ (i + 1) (hs.filter _)

/-- **batch partition**: a batch update performs, archive by archive in order, one
    ⟦archiveUpdateMany⟧ with exactly the points routed to that archive — the points of the
    time-sorted batch younger than that archive's retention that no finer archive took. -/
theorem batch_partition (o : FOps) (h : Handle) (ps : List Point) (k : Int) (now : Nat) :
    h.updateMany o ps k now = applyRoutes o h (routeLoop k now (sortByTime ps) 0 h.archs) :=
  updateManyLoop_routes o k now h.archs h _ 0 (sortByTime_sorted ps)

/-- what "best" routing hands to the archives: every point of the batch, in time order, is
    offered to the archives finest first; archive `a` takes those strictly younger than
    its retention, the rest goes on; what is left after the last archive is dropped. -/
theorem route_takes_exactly (now : Nat) (a : Arch) (as : List Arch) (ps : List Point) (i : Nat) :
    routeLoop (-1) now ps i (a :: as) =
      (if (ps.filter (fun p => decide (tsAdd now (- a.maxRetention) < p.t))).length = 0 then []
       else [(i, ps.filter (fun p => decide (tsAdd now (- a.maxRetention) < p.t)))]) ++
      routeLoop (-1) now (ps.filter (fun p => decide (p.t ≤ tsAdd now (- a.maxRetention)))) (i + 1) as := by
  rw [routeLoop, if_neg fun h => h.1 rfl]
  dsimp only
  split <;> rfl

/-- a named archive: those before it and after it are skipped, with the batch as it is -/
theorem routeLoop_named (now k : Nat) (as : List Arch) (i : Nat) (ps : List Point) :
    routeLoop (k : Int) now ps i as =
      if i ≤ k then
        match as[k - i]? with
        | none => []
        | some a =>
          if (ps.filter (fun p => decide (tsAdd now (- a.maxRetention) < p.t))).length = 0 then []
          else [(k, ps.filter (fun p => decide (tsAdd now (- a.maxRetention) < p.t)))]
      else [] := by
  induction as generalizing i ps with
  | nil => simp [routeLoop]
  | cons b bs ih =>
    simp only [routeLoop]
    have hc : ((k : Int) ≠ -1 ∧ (k : Int) ≠ (i : Int)) ↔ k ≠ i := by omega
    rcases Nat.lt_trichotomy i k with hlt | rfl | hgt
    · rw [if_pos (hc.2 (Nat.ne_of_gt hlt)), ih, if_pos (Nat.le_of_lt hlt), if_pos (show i + 1 ≤ k from hlt),
        show k - i = (k - (i + 1)) + 1 by rw [Nat.sub_add_eq, Nat.sub_add_cancel (Nat.sub_pos_of_lt hlt)],
        List.getElem?_cons_succ]
    · rw [if_neg fun h => hc.1 h rfl, ih, if_neg (Nat.not_succ_le_self i), if_pos (Nat.le_refl i), Nat.sub_self,
        List.getElem?_cons_zero]
    · rw [if_pos (hc.2 (Nat.ne_of_lt hgt)), ih, if_neg (Nat.not_le_of_gt hgt),
        if_neg (Nat.not_le_of_gt (Nat.lt_succ_of_lt hgt))]

/-- when one archive is named, exactly the points younger than that archive's retention
    are written, to that archive only -/
theorem route_named (now : Nat) (k : Nat) (as : List Arch) (ps : List Point) (a : Arch)
    (ha : as[k]? = some a) :
    routeLoop (k : Int) now ps 0 as =
      if (ps.filter (fun p => decide (tsAdd now (- a.maxRetention) < p.t))).length = 0 then []
      else [(k, ps.filter (fun p => decide (tsAdd now (- a.maxRetention) < p.t)))] := by
  rw [routeLoop_named, if_pos (Nat.zero_le _), Nat.sub_zero, ha]

/-- a stable sort is unique: two time-sorted lists with the same points at every time, in
    the same relative order, are equal -/
theorem stable_sort_unique (l1 l2 : List Point) (h1 : SortedByT l1) (h2 : SortedByT l2)
    (hf : ∀ t, l1.filter (fun q => q.t = t) = l2.filter (fun q => q.t = t)) : l1 = l2 := by
  have hmem : ∀ {l l' : List Point} {x : Point},
      (∀ t, l.filter (fun q => q.t = t) = l'.filter (fun q => q.t = t)) → x ∈ l → x ∈ l' :=
    fun hf hx => (List.mem_filter.1 (hf _ ▸ List.mem_filter.2 ⟨hx, decide_eq_true rfl⟩)).1
  induction l1 generalizing l2 with
  | nil => exact (List.eq_nil_iff_forall_not_mem.2 fun _ hx => nomatch hmem (fun t => (hf t).symm) hx).symm
  | cons p ps ih =>
    cases l2 with
    | nil => exact nomatch hmem hf List.mem_cons_self
    | cons q qs =>
      -- each head is in the other list, so the heads have the same (minimal) time
      have hpt : p.t = q.t := Nat.le_antisymm (h1.head_le q (hmem (fun t => (hf t).symm) List.mem_cons_self))
        (h2.head_le p (hmem hf List.mem_cons_self))
      have hhead := hf p.t
      simp only [List.filter_cons, hpt, decide_true, if_true] at hhead
      injection hhead with hpq _
      subst hpq
      congr 1
      refine ih qs h1.tail h2.tail fun t => ?_
      by_cases ht : p.t = t <;> simpa [List.filter_cons, ht] using hf t

/-- **order independence**: two batches with the same points and, for every timestamp, the
    same relative order of the points carrying it are handled identically -/
theorem order_independent (o : FOps) (h : Handle) (ps ps' : List Point) (k : Int) (now : Nat)
    (hsame : ∀ t, ps.filter (fun q => q.t = t) = ps'.filter (fun q => q.t = t)) :
    h.updateMany o ps k now = h.updateMany o ps' k now := by
  have : sortByTime ps = sortByTime ps' :=
    stable_sort_unique _ _ (sortByTime_sorted ps) (sortByTime_sorted ps')
      (fun t => by rw [sortByTime_stable, sortByTime_stable, hsame t])
  unfold updateMany
  rw [this]

/-- the slot `i` after writing the aligned points in order: the last of them whose
    interval maps to `i`, else what was there -/
def lastFor (a : Arch) (base : Nat) (i : Nat) (old : Point) : List Point → Point
  | [] => old
  | p :: ps => lastFor a base i (if slotIdx a base p.t = i then p else old) ps

/-- **same slot: the one supplied last (in the time-sorted batch) wins**, and slots no
    point maps to are untouched -/
theorem same_slot_last_wins (a : Arch) (base : Nat) (hn : 0 < a.n) (hfit : a.offset + 12 * a.n ≤ 4294967295)
    (ps : List Point) (hts : ∀ p ∈ ps, p.t < 4294967296) :
    ∀ (h h' : Handle), putPoints h a base ps = .ok h' →
      ∀ i, i < a.n → slotAt h' a i = lastFor a base i (slotAt h a i) ps := by
  intro h h' hp i hi
  induction ps generalizing h with
  | nil => cases hp; rfl
  | cons p ps ih =>
    simp only [putPoints] at hp
    rw [pointOffsetAt_slot hn hfit] at hp
    split at hp
    · cases hp
    · rename_i hm h1
      obtain ⟨s1, s2, _⟩ := putPointAt_slots h hm p (hts p List.mem_cons_self) a _ h1
      rw [ih (fun q hq => hts q (List.mem_cons_of_mem _ hq)) hm hp]
      simp only [lastFor]
      refine congrArg (fun x => lastFor a base i x ps) ?_
      by_cases hsi : slotIdx a base p.t = i
      · rw [if_pos hsi, ← hsi]
        exact s1
      · rw [if_neg hsi]
        exact s2 a i (slots_apart _ (Ne.symm hsi))

example : sortByTime [⟨5, 1⟩, ⟨3, 2⟩, ⟨5, 3⟩, ⟨1, 4⟩] = [⟨1, 4⟩, ⟨3, 2⟩, ⟨5, 1⟩, ⟨5, 3⟩] := by decide

/-! ### outside the clock zone: a clock before 1970 + maximum retention

  There `now - maxRetention` wraps around in uint32 (⟦Timestamp.Add⟧): the cut-off is
  `2^32 + now - maxRetention` (`tsAdd_early`, in `Proofs/Zone.lean`), later than the clock itself.
  So the wrap is characterised, not only mirrored: every single update is refused, and a batch
  hands an archive exactly the points later than that archive's wrapped cut-off.
-/

/-- **before 1970 + maximum retention every single update is refused** -/
theorem single_early_clock_rejects (h : Handle) (t now : Nat)
    (hM0 : 0 < h.hdr.maxRet) (hM1 : h.hdr.maxRet ≤ 4294967296)
    (hclock : (now : Int) < h.hdr.maxRet) : ¬ Accepts h t now := by
  unfold Accepts
  have := tsAdd_early now h.hdr.maxRet hM0 hM1 hclock
  omega

theorem single_early_clock_error (o : FOps) (h : Handle) (k : Int) (t : Nat) (v : Val) (now : Nat)
    (hM0 : 0 < h.hdr.maxRet) (hM1 : h.hdr.maxRet ≤ 4294967296)
    (hclock : (now : Int) < h.hdr.maxRet) :
    h.updatePoint o k t v now = .error (.err .notCovered) :=
  single_reject o h k t v now (single_early_clock_rejects h t now hM0 hM1 hclock)

/-- the acceptance test for every clock below 2^32: the closed form of the zone, and
    refusal before it -/
theorem single_accept_all_clocks (h : Handle) (t now : Nat)
    (hM0 : 0 < h.hdr.maxRet) (hM1 : h.hdr.maxRet ≤ 4294967296) (hnow : now < 4294967296) :
    Accepts h t now ↔ (h.hdr.maxRet ≤ now ∧ t ≤ now ∧ (now : Int) - t < h.hdr.maxRet) := by
  by_cases hc : h.hdr.maxRet ≤ (now : Int)
  · rw [single_accept_iff h t now (by omega) hc hnow, and_iff_right hc]
  · have := single_early_clock_rejects h t now hM0 hM1 (by omega)
    exact ⟨fun ha => absurd ha this, fun hh => absurd hh.1 hc⟩

/-- what a batch offers an archive when the clock has not reached that archive's
    retention: exactly the points later than the wrapped cut-off — each later than the clock -/
theorem batch_early_cutoff (now : Nat) (a : Arch) (p : Point)
    (h0 : 0 < a.maxRetention) (h1 : a.maxRetention ≤ 4294967296)
    (hclock : (now : Int) < a.maxRetention) :
    (decide (tsAdd now (- a.maxRetention) < p.t) = true) ↔
      (4294967296 + (now : Int) - a.maxRetention < p.t ∧ now < p.t) := by
  have := tsAdd_early now a.maxRetention h0 h1 hclock
  simp only [decide_eq_true_eq]
  omega

/-- bare integer arithmetic, no model function: the value 2^32 + now − retention of the wrapped
    cut-off for now = 3600 and a retention of one day -/
example : (4294967296 + (3600 : Int) - 86400 : Int) = 4294884496 := by decide

end Wsp.C03
