/-
  C16, the totality clause for the reading commands: with the clock past every file's
  retention and before 2038 (`ClockAll`), `view`, `view-raw`, `diff`, `sum` and `sum-diff`
  never end in a panic — whatever bytes the files of the tree hold, whatever archive is
  selected, whatever the window.  (The library calls they are made of are total on every
  file that opens: `Total.open_good`, `fetch_total`, `raw_total`.)
-/
import Wsp.Props.Total
import Wsp.Props.CmdBasics
namespace Wsp.C16T
open Wsp.Total Wsp.Cmd

/-- the clock is inside the zone of every file of the tree that opens -/
def ClockAll (o : FOps) (t : Tree) (now : Nat) : Prop :=
  ∀ p b h, t.get p = some b → openBytes o b = .ok h → ClockOK h now

variable {α : Type} {o : FOps} {t : Tree} {w : Window} {h : Handle} {k : Int} {f u now : Nat}

theorem ofFault_ne_panic {r : R α} {e : Fault} (hr : r = .error e) (hnp : ¬ IsPanic r) :
    Outcome.ofFault e ≠ .panic := by
  intro h
  obtain ⟨s, rfl⟩ := Outcome.ofFault_eq_panic.1 h
  exact hnp ⟨s, hr⟩

theorem collect_np {α β} (f : Nat → α → R β) : ∀ (as : List α) (i : Nat),
    (∀ j a, as[j]? = some a → ¬ IsPanic (f (i + j) a)) → ¬ IsPanic (collect f i as)
  | [], _, _ => np_ok _
  | a :: as, i, hf => by
    simp only [collect, bind, Except.bind]
    cases h1 : f i a with
    | error e => exact np_of_error (hf 0 a rfl) h1
    | ok b =>
      cases h2 : collect f (i + 1) as with
      | error e =>
        exact np_of_error (collect_np f as (i + 1) fun j a' ha => Nat.add_right_comm i 1 j ▸ hf (j + 1) a' ha) h2
      | ok r => exact np_ok _

theorem select_np {dflt : α} {rd : Int → R α} {as : List Arch} {id : Int}
    (hrd : ∀ k : Int, 0 ≤ k → k < as.length → ¬ IsPanic (rd k)) : ¬ IsPanic (select dflt rd as id) := by
  unfold select
  split
  · exact collect_np _ as 0 fun j a ha =>
      hrd _ (by omega) (by have := (List.getElem?_eq_some_iff.1 ha).1; omega)
  · split
    · rename_i hk
      cases h1 : rd id with
      | error e => exact np_of_error (hrd id hk.1 hk.2) h1
      | ok x => exact np_ok _
    · exact np_err _

theorem fetchList_np (g : Good h) (hz : ClockOK h now) :
    ¬ IsPanic (fetchList h k f u now) := by
  rw [fetchList_eq]
  exact select_np fun k' _ _ => fetch_total h g k' f u now hz

theorem readFile_np (p : String) (hz : ClockAll o t now) :
    ¬ IsPanic (readFile o t p k f u now) := by
  unfold readFile
  split
  · exact np_err _
  · rename_i b hb
    split
    · exact np_err _
    · rename_i h ho
      cases h1 : fetchList h k f u now with
      | error e => exact np_of_error (fetchList_np (open_good o b _ h ho) (hz p b h hb ho)) h1
      | ok l => exact np_ok _

theorem view_total (o : FOps) (t : Tree) (p : String) (w : Window) (hz : ClockAll o t w.now) :
    (Cmd.view o t p w).1 ≠ .panic := by
  unfold Cmd.view
  cases hr : readFile o t p w.archiveID w.from_ w.until' w.now with
  | ok r => obtain ⟨h, l⟩ := r; simp
  | error e => exact ofFault_ne_panic hr (readFile_np p hz)

/-- **view-raw never panics** (no clock hypothesis: it reads slots, not windows) -/
theorem viewRaw_total (o : FOps) (t : Tree) (p : String) (w : Window) (s : Bool) : (viewRaw o t p w s).1 ≠ .panic := by
  cases hb : t.get p with
  | none => simp [viewRaw, hb]
  | some b =>
    cases ho : openBytes o b with
    | error e => simp [viewRaw, hb, ho]
    | ok h =>
      rw [viewRaw_open hb ho]
      cases hr : select [] h.rawPoints h.archs w.archiveID with
      | ok pl => simp [C12.rawOut]
      | error e =>
        exact ofFault_ne_panic hr (select_np fun k h1 h2 => raw_total h k ⟨h1, h2⟩)

theorem diffOne_total (o : FOps) (t : Tree) (src dst : String) (w : Window) (hz : ClockAll o t w.now) :
    (diffOne o t src dst w).1 ≠ .panic := by
  rw [diffOne_with]
  exact fun h => (diffWith_panic h).elim (readFile_np src hz) (readFile_np dst hz)

theorem sumFiles_np (files : List String) (hz : ClockAll o t w.now) :
    ¬ IsPanic (sumFiles o t files w) := by
  unfold sumFiles
  split
  · exact np_err _
  · cases h1 : sumFiles.readAll o t w files with
    | error e =>
      exact np_of_error (readAll_eq o t w files ▸ collect_np _ files 0 fun _ f _ => readFile_np f hz) h1
    | ok rs =>
      cases rs with
      | nil => exact np_err _
      | cons r rest =>
        dsimp only
        split
        · exact np_err _
        · split
          · exact np_err _
          · exact np_ok _

theorem sum_total (o : FOps) (t : Tree) (files : List String) (w : Window) (hz : ClockAll o t w.now) :
    (Cmd.sum o t files w).1 ≠ .panic := by
  unfold Cmd.sum
  cases hr : sumFiles o t files w with
  | ok r => obtain ⟨h, l⟩ := r; simp
  | error e => exact ofFault_ne_panic hr (sumFiles_np files hz)

theorem sumDiff_total (o : FOps) (t : Tree) (files : List String) (dst : String) (w : Window) (hz : ClockAll o t w.now) :
    (sumDiff o t files dst w).1 ≠ .panic := by
  rw [sumDiff_with]
  exact fun h => (diffWith_panic h).elim (sumFiles_np files hz) (readFile_np dst hz)

end Wsp.C16T
