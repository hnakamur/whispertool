/-
  C02  Downsampling: coarser archives hold the configured aggregate of finer data.

  One step of propagation (`propagateOne`, the body of the loop in ⟦propagate⟧) for the
  coarse interval `t`:
  * reads the finer ring over `[t, t + S_coarse)` and keeps the values of the slots that
    are stamped with their expected interval, in time order (`known_values`);
  * if none is known, or the known fraction is below xFilesFactor, the handle is returned
    exactly as it was (`skipped_slot_untouched`);
  * otherwise it stores `aggregate method known` — of a **non-empty** list, so no value is
    invented and `aggregate` cannot panic (`stored_is_aggregate`, `aggregate_total`) — in
    the slot of `t` of the coarser archive and in no other slot of any archive
    (`stored_frame`);
  * the next level is visited only for intervals that were stored (`continues_only_if_stored`).
  `aggregate_rules` states the six methods outright.
-/
import Wsp.Proofs.Slots
import Wsp.Props.C01
namespace Wsp.C02
open Wsp.Handle Wsp.C14

/-- the six methods, stated outright (average, sum, last, max, min, first) -/
theorem aggregate_rules (o : FOps) (v : Val) (vs : List Val) :
    aggregate o 1 (v :: vs) = .ok (o.divNat (o.sum (v :: vs)) (vs.length + 1)) ∧
    aggregate o 2 (v :: vs) = .ok (o.sum (v :: vs)) ∧
    aggregate o 3 (v :: vs) = .ok ((v :: vs).getLast (by simp)) ∧
    aggregate o 4 (v :: vs) = .ok ((v :: vs).foldl (fun mx x => if o.lt mx x then x else mx) v) ∧
    aggregate o 5 (v :: vs) = .ok ((v :: vs).foldl (fun mn x => if o.lt x mn then x else mn) v) ∧
    aggregate o 6 (v :: vs) = .ok v := by
  refine ⟨rfl, rfl, ?_, rfl, rfl, rfl⟩
  simp only [aggregate]
  rw [List.getLast?_eq_some_getLast (by simp)]

/-- on a non-empty list of known values every storable method yields a value — no panic -/
theorem aggregate_total (o : FOps) (m : Nat) (hm : validAgg m = true) (vs : List Val) (hne : vs ≠ []) :
    ∃ v, aggregate o m vs = .ok v := by
  cases vs with
  | nil => exact absurd rfl hne
  | cons v vs =>
    obtain ⟨h1, h2, h3, h4, h5, h6⟩ := aggregate_rules o v vs
    match m, hm with
    | 1, _ => exact ⟨_, h1⟩
    | 2, _ => exact ⟨_, h2⟩
    | 3, _ => exact ⟨_, h3⟩
    | 4, _ => exact ⟨_, h4⟩
    | 5, _ => exact ⟨_, h5⟩
    | 6, _ => exact ⟨_, h6⟩
    | 0, hm => cases hm
    | m + 7, hm => simp [validAgg] at hm

/-- ⟦filterValidValues⟧ keeps, in time order, the values of the points stamped with their
    expected interval -/
theorem known_values (s : Nat) (f : Nat → Point) :
    ∀ (n k cur : Nat), cur + s * n < 4294967296 →
    filterValid (s : Int) cur ((List.range' k n).map f) =
      ((List.range' k n).filter fun i => decide ((f i).t = cur + s * (i - k))).map fun i => (f i).v := by
  intro n k cur hb
  induction n generalizing k cur with
  | zero => rfl
  | succ n ih =>
    rw [Nat.mul_succ, Nat.add_comm (s * n), ← Nat.add_assoc] at hb
    -- the tail's instants, counted from `cur + s` and start `k + 1`, are those counted from `cur` and `k`
    have hcongr : ((List.range' (k + 1) n).filter fun i => decide ((f i).t = cur + s + s * (i - (k + 1)))) =
        ((List.range' (k + 1) n).filter fun i => decide ((f i).t = cur + s * (i - k))) := by
      refine List.filter_congr fun i hi => ?_
      obtain ⟨d, rfl⟩ := Nat.exists_eq_add_of_le (List.mem_range'_1.1 hi).1
      rw [Nat.add_sub_cancel_left, Nat.add_assoc k, Nat.add_sub_cancel_left, Nat.mul_add, Nat.mul_one, Nat.add_assoc]
    rw [List.range'_succ]
    simp only [List.map_cons, filterValid, List.filter_cons, tsAdd_nat cur s (Nat.lt_of_le_of_lt (Nat.le_add_right _ _) hb),
      ih (k + 1) (cur + s) hb, hcongr]
    by_cases ht : (f k).t = cur <;> simp [ht]

theorem propagateOne_spec (o : FOps) (h h' : Handle) (a aHigh : Arch) (t : Nat) (stored : Bool)
    (hp : propagateOne o h a aHigh t = .ok (h', stored)) :
    ∃ pts, h.fetchRawPoints aHigh t (tsAdd t a.step) = .ok pts ∧
      (stored = false → h' = h ∧
        ((filterValid aHigh.step (aHigh.intervalForWrite t) pts).length = 0 ∨
         o.xffLess (filterValid aHigh.step (aHigh.intervalForWrite t) pts).length pts.length h.hdr.xff = true)) ∧
      (stored = true →
        (filterValid aHigh.step (aHigh.intervalForWrite t) pts) ≠ [] ∧
        o.xffLess (filterValid aHigh.step (aHigh.intervalForWrite t) pts).length pts.length h.hdr.xff = false ∧
        ∃ v off, aggregate o h.hdr.agg (filterValid aHigh.step (aHigh.intervalForWrite t) pts) = .ok v ∧
          h.getPointOffset t a = .ok off ∧ h.putPointAt ⟨t, v⟩ off = .ok h') := by
  unfold propagateOne at hp
  split at hp
  · cases hp
  rename_i pts hf
  refine ⟨pts, hf, ?_⟩
  dsimp only at hp
  generalize filterValid aHigh.step (aHigh.intervalForWrite t) pts = vals at hp ⊢
  by_cases h0 : vals.length = 0
  · rw [if_pos h0] at hp
    cases hp; exact ⟨fun _ => ⟨rfl, Or.inl h0⟩, nofun⟩
  rw [if_neg h0] at hp
  split at hp
  · cases hp; exact ⟨fun _ => ⟨rfl, Or.inr ‹_›⟩, nofun⟩
  rename_i hx
  split at hp
  · cases hp
  rename_i v hv
  split at hp
  · cases hp
  rename_i off hoff
  split at hp
  · cases hp
  rename_i h'' hput
  cases hp
  exact ⟨nofun, fun _ => ⟨fun he => h0 (by rw [he]; rfl), by simpa using hx, v, off, hv, hoff, hput⟩⟩

/-- a coarser slot whose finer values are all unknown, or too few of them known, is left
    exactly as it was — and so is every other byte of the file -/
theorem skipped_slot_untouched (o : FOps) (h h' : Handle) (a aHigh : Arch) (t : Nat)
    (hp : propagateOne o h a aHigh t = .ok (h', false)) : h' = h := by
  obtain ⟨_, _, h1, _⟩ := propagateOne_spec o h h' a aHigh t false hp
  exact (h1 rfl).1

/-- a stored value is the aggregate of a non-empty list of known finer values -/
theorem stored_is_aggregate (o : FOps) (h h' : Handle) (a aHigh : Arch) (t : Nat)
    (hp : propagateOne o h a aHigh t = .ok (h', true)) :
    ∃ pts v, h.fetchRawPoints aHigh t (tsAdd t a.step) = .ok pts ∧
      filterValid aHigh.step (aHigh.intervalForWrite t) pts ≠ [] ∧
      aggregate o h.hdr.agg (filterValid aHigh.step (aHigh.intervalForWrite t) pts) = .ok v := by
  obtain ⟨pts, hf, _, h2⟩ := propagateOne_spec o h h' a aHigh t true hp
  obtain ⟨hne, _, v, _, hagg, _, _⟩ := h2 rfl
  exact ⟨pts, v, hf, hne, hagg⟩

/-- the store replaces the slot of `t` in the coarser archive and no other slot anywhere -/
theorem stored_frame (o : FOps) (h h' : Handle) (a aHigh : Arch) (t : Nat) (base : Nat)
    (ht : t < 4294967296) (hn : 0 < a.n) (hfit : a.offset + 12 * a.n ≤ 4294967295)
    (hbase : h.baseInterval a = .ok base)
    (hp : propagateOne o h a aHigh t = .ok (h', true)) :
    let i := if base = 0 then 0 else slotIdx a base t
    (slotAt h' a i).t = t ∧
    (∀ (b : Arch) (j : Nat), (b.offset + 12 * j + 12 ≤ a.offset + 12 * i ∨ a.offset + 12 * i + 12 ≤ b.offset + 12 * j) →
      slotAt h' b j = slotAt h b j) := by
  obtain ⟨pts, hf, _, h2⟩ := propagateOne_spec o h h' a aHigh t true hp
  obtain ⟨_, _, v, off, _, hg, hput⟩ := h2 rfl
  obtain ⟨_, _, hs, hfr⟩ := C01.write_lands h h' a t v base off ht hn hfit hbase hg hput
  exact ⟨by rw [hs], hfr⟩

/-- recomputation continues to the next level only for slots that were stored: a skipped
    slot adds nothing to the list of times to propagate -/
theorem continues_only_if_stored (o : FOps) (h : Handle) (a aHigh : Arch) (aLow : Option Arch)
    (acc : List Nat) (t : Nat) (ts : List Nat) (hm : Handle)
    (hp : propagateOne o h a aHigh t = .ok (hm, false)) :
    propagateLoop o h a aHigh aLow acc (t :: ts) = propagateLoop o hm a aHigh aLow acc ts := by
  rw [propagateLoop_cons, hp]
  rfl

/-- the window read for one coarse interval always has `S_coarse / S_fine` slots, whatever
    the times (no zone needed): `(t + S) − t` is `S` in 32-bit arithmetic -/
theorem propagate_window_count (a : Arch) (t : Nat) (hs : 0 < a.step) (hsl : a.step < 2147483648)
    (ht : t < 4294967296) : tsSub (tsAdd t a.step) t = a.step := by
  unfold tsSub tsAdd u32 i32
  -- the remainder is not negative: said here, omega would split on the sign under `toNat`
  rw [Int.toNat_of_nonneg (Int.emod_nonneg _ (by decide))]
  omega

end Wsp.C02
