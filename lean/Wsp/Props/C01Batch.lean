/-
  C01 for batch updates: ⟦archiveUpdateMany⟧ writes the aligned points of its share of the
  batch one after the other with the slot index computed from the base interval read once
  at the start; that is the same sequence of writes as the single-write path performs
  (`putPoints_reach_live`, `putPoints_reach_fresh`), so the history theorem applies to batches
  as it does to single updates.
-/
import Wsp.Props.C01System
namespace Wsp.C01
open Wsp.Handle Wsp.C14 Wsp.Total

variable {a : Arch} {h h' : Handle} {es : List (Option (Nat × Val))}

/-- with a congruent base the slot offset is the one ⟦getPointOffset⟧ computes now -/
theorem getPointOffset_live {base I : Nat} (lv : Live h a)
    (hb : base < 2147483648) (hc : Cong a (slotAt h a 0).t base) (gI : OnGrid a base I) :
    h.getPointOffset I a = .ok (a.pointOffsetAt (a.pointIndex base I)) := by
  rw [getPointOffset_slot I lv.hn lv.fit lv.baseInterval, if_neg lv.b0, pointOffsetAt_slot lv.hn lv.fit,
    base_change_keeps_slots a base _ I lv.hs lv.hn hb lv.blt gI.lt hc gI.al]

/-- the batch write loop on a live archive is the sequence of its single writes -/
theorem putPoints_reach_live (a : Arch) (base : Nat) (hb : base < 2147483648) (pts : List Point) :
    ∀ (h h' : Handle), Live h a →
      (a.step * (a.n : Int)) ∣ (((slotAt h a 0).t : Int) - (base : Int)) →
      (∀ p ∈ pts, OnGrid a base p.t ∧ p.t ≠ 0) →
      putPoints h a base pts = .ok h' →
      Reach a h (pts.map fun p => some (p.t, p.v)) h' := by
  intro h h' lv hc hg hp
  induction pts generalizing h with
  | nil => cases hp; exact SameOn.refl a _
  | cons p rest ih =>
    simp only [putPoints] at hp
    split at hp
    · cases hp
    · rename_i h1 hput
      have hgp := hg p (by simp)
      have hoff := getPointOffset_live lv hb hc hgp.1
      -- the base moves by whole laps only, so the fixed `base` stays congruent to it
      obtain ⟨lv1, hc1, _⟩ := write_step h h1 a p.t p.v _ lv (hgp.1.rebase (Cong.dvd_step hc)) hgp.2 hoff hput
      exact ⟨_, h1, h1, hoff, hput, SameOn.refl a h1,
        ih h1 lv1 (Cong.trans hc1 hc) (fun q hq => hg q (by simp [hq])) hp⟩

/-- on a never-written archive the first point of the batch becomes the base -/
theorem putPoints_reach_fresh (a : Arch) (p : Point) (rest : List Point) (h h' : Handle) (fr : Fresh h a)
    (hp0 : p.t < 2147483648 ∧ p.t ≠ 0)
    (hg : ∀ q ∈ rest, OnGrid a p.t q.t ∧ q.t ≠ 0)
    (hp : putPoints h a p.t (p :: rest) = .ok h') :
    Reach a h ((p :: rest).map fun q => some (q.t, q.v)) h' := by
  have hoff : h.getPointOffset p.t a = .ok (a.offset + 12 * 0) := by
    rw [getPointOffset_slot p.t fr.hn fr.fit fr.baseInterval]; rfl
  simp only [putPoints] at hp
  rw [pointOffsetAt_slot fr.hn fr.fit, slotIdx_base a p.t] at hp
  split at hp
  · cases hp
  · rename_i h1 hput
    obtain ⟨lv1, hb1, _⟩ := first_write h h1 a p.t p.v _ fr hp0.1 hp0.2 hoff hput
    exact ⟨_, h1, h1, hoff, hput, SameOn.refl a h1,
      putPoints_reach_live a p.t hp0.1 rest h1 h' lv1 (hb1 ▸ Cong.refl a p.t) hg hp⟩

/-- every aligned point carries the write interval of one of the batch's points -/
theorem alignPointsLoop_times (a : Arch) (P : Nat → Prop) : ∀ (ps acc : List Point) (prev : Nat) (first : Bool),
    (∀ p ∈ ps, P p.t) → (∀ d ∈ acc, ∃ q, P q ∧ d.t = a.intervalForWrite q) →
    ∀ d ∈ alignPointsLoop a acc prev first ps, ∃ q, P q ∧ d.t = a.intervalForWrite q := by
  intro ps acc prev first hps hacc d hd
  induction ps generalizing acc prev first with
  | nil => simp only [alignPointsLoop] at hd; exact hacc d (by simpa using hd)
  | cons p ps ih =>
    have hps' : ∀ q ∈ ps, P q.t := fun q hq => hps q (by simp [hq])
    simp only [alignPointsLoop] at hd
    split at hd
    · cases acc with
      | nil => exact ih _ _ _ hps' hacc hd
      | cons last acc' =>
        -- the last kept point gets a new value, its time stays
        exact ih (⟨last.t, p.v⟩ :: acc') _ _ hps'
          (List.forall_mem_cons.2 ⟨hacc last (by simp), fun x hx => hacc x (by simp [hx])⟩) hd
    · exact ih _ _ _ hps' (List.forall_mem_cons.2 ⟨⟨p.t, hps p (by simp), rfl⟩, hacc⟩) hd

theorem alignPoints_times (a : Arch) (P : Nat → Prop) {ps : List Point} (hps : ∀ p ∈ ps, P p.t) :
    ∀ d ∈ alignPoints a ps, ∃ q, P q ∧ d.t = a.intervalForWrite q :=
  alignPointsLoop_times a P ps [] 0 true hps (by intro x hx; simp at hx)

theorem alignPoints_aligned (hs : 0 < a.step) {ps : List Point} (hps : ∀ p ∈ ps, TimeOK a p.t) :
    ∀ d ∈ alignPoints a ps, AbsGrid a d.t := fun d hd =>
  have ⟨_, hq, e⟩ := alignPoints_times a (TimeOK a) hps d hd
  e ▸ aligned_ok hs hq

/-- `Reach`, tolerant of anything that left the archive alone beforehand -/
def ReachS (a : Arch) (h : Handle) (es : List (Option (Nat × Val))) (h' : Handle) : Prop :=
  ∃ h0, SameOn a h h0 ∧ Reach a h0 es h'

theorem Reach.toS (r : Reach a h es h') : ReachS a h es h' := ⟨h, SameOn.refl a h, r⟩

theorem ReachS.of_sameOn (s : SameOn a h h') : ReachS a h [] h' :=
  ⟨h, SameOn.refl a h, s⟩

theorem ReachS.reach (r : ReachS a h es h') : Reach a h (none :: es) h' := r

theorem ReachS.append (a : Arch) (es1 es2 : List (Option (Nat × Val))) :
    ∀ (h hm h' : Handle), ReachS a h es1 hm → ReachS a hm es2 h' → ReachS a h (es1 ++ es2) h' := by
  rintro h hm h' ⟨h0, s0, r⟩ r2
  induction es1 generalizing h h0 with
  | nil =>
    obtain ⟨hm0, sm, r'⟩ := r2
    exact ⟨hm0, (s0.trans r).trans sm, r'⟩
  | cons e es ih =>
    cases e with
    | none =>
      obtain ⟨hx, sx, rx⟩ := r
      obtain ⟨hx0, sx0, rr⟩ := ih hx hx (SameOn.refl a hx) rx
      exact ⟨h0, s0, hx0, sx.trans sx0, rr⟩
    | some w =>
      obtain ⟨off, h1, hx, hg, hput, sx, rx⟩ := r
      obtain ⟨hx0, sx0, rr⟩ := ih hx hx (SameOn.refl a hx) rx
      exact ⟨h0, s0, off, h1, hx0, hg, hput, sx.trans sx0, rr⟩

theorem ReachS.then_sameOn {hm : Handle} (r : ReachS a h es hm) (s : SameOn a hm h') : ReachS a h es h' := by
  simpa using ReachS.append a es [] h hm h' r (.of_sameOn s)

def ArchState (h : Handle) (a : Arch) : Prop :=
  Fresh h a ∨ (Live h a ∧ a.step ∣ ((slotAt h a 0).t : Int) )

theorem archState_iff : ArchState h a ↔ GridState 0 h a :=
  or_congr_right (and_congr_right fun lv => ⟨onGrid_zero lv.blt, fun g => by simpa using g.al⟩)

theorem ArchState.of_sameOn (st : ArchState h a) (s : SameOn a h h') : ArchState h' a :=
  archState_iff.2 ((archState_iff.1 st).of_sameOn s)

theorem ArchState.facts (st : ArchState h a) :
    0 < a.step ∧ 0 < a.n ∧ a.offset + 12 * a.n ≤ 4294967295 ∧ a.offset + 12 * a.n ≤ h.view.length ∧
    (slotAt h a 0).t < 2147483648 ∧ a.step ∣ ((slotAt h a 0).t : Int) := by
  rcases st with f | ⟨l, d⟩
  · refine ⟨f.hs, f.hn, f.fit, f.view, ?_, ?_⟩
    · rw [f.zero 0 f.hn]; omega
    · rw [f.zero 0 f.hn]; exact Int.dvd_zero _
  · exact ⟨l.hs, l.hn, l.fit, l.view, l.blt, d⟩

theorem ArchState.baseInterval (st : ArchState h a) : h.baseInterval a = .ok (slotAt h a 0).t := by
  obtain ⟨_, hn, _, hv, _, _⟩ := st.facts
  exact baseInterval_slot (by omega)

/-- the history theorem over `ArchState` and `ReachS`: `reach_inv` on the grid through 0 -/
theorem reachS_reads (st : ArchState h a) (hws : ∀ w ∈ writesOf es, AbsGrid a w.1) (r : ReachS a h es h') :
    ArchState h' a ∧ ∀ J, AbsGrid a J →
      ringValue h' a (slotAt h' a 0).t J = histValue a (writesOf es) (ringValue h a (slotAt h a 0).t) J := by
  obtain ⟨st', _, rd⟩ := reach_inv (g := 0) (es := none :: es) (archState_iff.1 st)
    (fun w hw => (hws w hw).onGrid (Int.dvd_zero _)) r.reach
  exact ⟨archState_iff.2 st', fun J gJ => rd J (onGrid_zero gJ.1 gJ.2.1) (Or.inl gJ.2.2)⟩

theorem reach_state (st : ArchState h a) (hws : ∀ w ∈ writesOf es, AbsGrid a w.1) (r : Reach a h es h') :
    ArchState h' a :=
  (reachS_reads st hws r.toS).1

theorem writesOf_points (l : List Point) :
    writesOf (l.map fun p => some (p.t, p.v)) = l.map fun p => (p.t, p.v) := by
  simp [writesOf, List.filterMap_map]

/-- the direct writes of a batch are single writes -/
theorem putAligned_reach {hm : Handle} {aligned : List Point} (st : ArchState h a)
    (hal : ∀ d ∈ aligned, AbsGrid a d.t) (hp : h.putAligned a aligned = .ok hm) :
    Reach a h (aligned.map fun p => some (p.t, p.v)) hm := by
  obtain ⟨base0, base, hb, hbase, hput⟩ := putAligned_ok_iff.1 hp
  rcases st with fr | ⟨lv, albase⟩
  · cases fr.baseInterval.symm.trans hb
    cases aligned with
    | nil => simp at hbase
    | cons d rest =>
      obtain rfl : d.t = base := by simpa using hbase
      have hd := hal d (by simp)
      exact putPoints_reach_fresh a d rest h hm fr ⟨hd.1, hd.2.2⟩
        (fun q hq => (hal q (by simp [hq])).onGrid hd.2.1) hput
  · cases lv.baseInterval.symm.trans hb
    obtain rfl : (slotAt h a 0).t = base := by simpa [lv.b0] using hbase
    exact putPoints_reach_live a _ lv.blt aligned h hm lv (Cong.refl a _) (fun q hq => (hal q hq).onGrid albase) hput

/-- a batch for archive `k` is, for that archive, its direct writes: propagation lies behind it -/
theorem archiveUpdateMany_at {o : FOps} (g : Good h) {k : Nat} {a0 : Arch} (ha0 : h.archs[k]? = some a0)
    (st : ArchState h a0) {ps : List Point} (hps : ∀ p ∈ ps, TimeOK a0 p.t)
    (hp : archiveUpdateMany o h ps k = .ok h') :
    ReachS a0 h ((alignPoints a0 ps).map fun p => some (p.t, p.v)) h' ∧ Good h' ∧ h'.hdr = h.hdr := by
  have fr0 := archiveUpdateMany_frameFrom (g.placed.from k) hp
  refine ⟨?_, g.of_frame fr0, fr0.1⟩
  obtain ⟨a, hm, ha, hw, hc⟩ := archiveUpdateMany_ok_iff.1 hp
  cases ha0.symm.trans ha
  have r := putAligned_reach st (alignPoints_aligned st.facts.1 hps) hw
  have f1 := putAligned_frame (g.placed a0 (List.mem_of_getElem? ha0)) hw
  have s := frame_sameOn a0 (propagateChain_frameFrom o hm h' k
    ((g.placedFrom ha0).of_frame f1) _ hc) (by omega)
  exact r.toS.then_sameOn s

/-- what a batch update means for the finest archive -/
def batchEvents (a0 : Arch) (ps : List Point) (k : Int) (now : Nat) : List (Option (Nat × Val)) :=
  if k ≠ -1 ∧ k ≠ 0 then [] else
    (alignPoints a0 (extractPoints (sortByTime ps) now a0.maxRetention).1).map fun p => some (p.t, p.v)

theorem extract_cur_subset (ps : List Point) (now : Nat) (ret : Int) :
    ∀ p ∈ (extractPoints (sortByTime ps) now ret).1, p ∈ ps :=
  (extractPoints_sub now ret fun _ => (sortByTime_perm ps).mem_iff.1).1

/-- **one batch update, seen from the finest archive**: the aligned points of its share of
    the batch, written in order; everything else the batch does lies behind it -/
theorem updateMany_reachS (o : FOps) (h h' : Handle) (g : Good h) (a0 : Arch) (ha0 : h.archs[0]? = some a0)
    (st : ArchState h a0) (ps : List Point) (k : Int) (now : Nat) (hps : ∀ p ∈ ps, TimeOK a0 p.t)
    (hp : h.updateMany o ps k now = .ok h') :
    ReachS a0 h (batchEvents a0 ps k now) h' ∧ Good h' ∧ h'.hdr = h.hdr := by
  have fr := updateMany_frame o h h' g.placed ps k now hp
  refine ⟨?_, g.of_frame fr, fr.1⟩
  obtain ⟨tl, harchs⟩ := List.head?_eq_some_iff.1 (List.head?_eq_getElem? ▸ ha0)
  -- whatever follows the turn of the finest archive lies behind it
  have other : ∀ {hm : Handle} {qs : List Point}, Good hm → hm.hdr = h.hdr →
      updateManyLoop o k now hm qs (0 + 1) tl = .ok h' → SameOn a0 hm h' :=
    fun {hm qs} gm hh hp' =>
      have e : hm.archs = h.archs := congrArg Header.archives hh
      frame_sameOn a0 (updateManyLoop_frameFrom (gm.placedFrom (e ▸ ha0)) (by rw [e, harchs]; rfl) hp')
        (Nat.le_refl _)
  unfold updateMany at hp
  rw [harchs] at hp
  simp only [updateManyLoop] at hp
  unfold batchEvents
  rw [Int.natCast_zero] at hp
  by_cases hk : k ≠ -1 ∧ k ≠ 0
  · rw [if_pos hk] at hp ⊢
    exact .of_sameOn (other g rfl hp)
  rw [if_neg hk] at hp ⊢
  split at hp
  · rename_i hcur
    rw [List.eq_nil_of_length_eq_zero hcur]
    exact .of_sameOn (other g rfl hp)
  split at hp
  · cases hp
  · rename_i hm h1
    obtain ⟨r1, gm, hh⟩ := archiveUpdateMany_at g ha0 st
      (fun p hp' => hps p (extract_cur_subset ps now _ p hp')) h1
    exact r1.then_sameOn (other gm hh hp)

inductive FOp
  | single (u : Upd)
  | batch (ps : List Point) (k : Int) (now : Nat)

def runFOps (o : FOps) : Handle → List FOp → R Handle
  | h, [] => .ok h
  | h, .single u :: ops =>
    match h.updatePoint o u.k u.t u.v u.now with
    | .error e => .error e
    | .ok h' => runFOps o h' ops
  | h, .batch ps k now :: ops =>
    match h.updateMany o ps k now with
    | .error e => .error e
    | .ok h' => runFOps o h' ops

/-- a history, for any fact about one single and one batch update -/
theorem runFOps_post {o : FOps} {E : Fault → Prop} {P : Handle → Prop} {Q : FOp → Prop}
    (single : ∀ {h : Handle} (u : Upd), Q (.single u) → P h → Post E P (h.updatePoint o u.k u.t u.v u.now))
    (batch : ∀ {h : Handle} (ps : List Point) (k : Int) (now : Nat), Q (.batch ps k now) → P h →
      Post E P (h.updateMany o ps k now)) :
    ∀ (ops : List FOp) (h : Handle), P h → (∀ op ∈ ops, Q op) → Post E P (runFOps o h ops)
  | [], _, hP, _ => hP
  | op :: ops, h, hP, hq => by
    have next : ∀ {r : R Handle}, Post E P r →
        Post E P (match r with | .error e => .error e | .ok hm => runFOps o hm ops) := fun {r} p => by
      cases r with
      | error e => exact p
      | ok hm => exact runFOps_post single batch ops hm p fun op' h' => hq op' (List.mem_cons_of_mem _ h')
    cases op with
    | single u => exact next (single u (hq _ (by simp)) hP)
    | batch ps k now => exact next (batch ps k now (hq _ (by simp)) hP)

/-- what an operation means for the finest archive -/
def opEvents (h : Handle) (a0 : Arch) : FOp → List (Option (Nat × Val))
  | .single u => eventsFor h 0 a0 [u]
  | .batch ps k now => batchEvents a0 ps k now

def OpTimesOK (a0 : Arch) : FOp → Prop
  | .single u => TimeOK a0 u.t
  | .batch ps _ _ => ∀ p ∈ ps, TimeOK a0 p.t

theorem opEvents_aligned {a0 : Arch} (hs : 0 < a0.step) {op : FOp} (hok : OpTimesOK a0 op) :
    ∀ w ∈ writesOf (opEvents h a0 op), AbsGrid a0 w.1 := by
  intro w hw
  cases op with
  | single u => exact eventsFor_aligned hs (fun _ hu => List.mem_singleton.1 hu ▸ hok) w hw
  | batch ps k now =>
    simp only [opEvents, batchEvents] at hw
    split at hw
    · simp [writesOf] at hw
    · rw [writesOf_points] at hw
      obtain ⟨d, hd, rfl⟩ := List.mem_map.1 hw
      exact alignPoints_aligned hs (fun p hp => hok p (extract_cur_subset ps now _ p hp)) d hd

theorem opsEvents_aligned {a0 : Arch} (hs : 0 < a0.step) {ops : List FOp}
    (hok : ∀ op ∈ ops, OpTimesOK a0 op) :
    ∀ w ∈ writesOf (ops.flatMap (opEvents h a0)), AbsGrid a0 w.1 := by
  intro w hw
  simp only [writesOf, List.filterMap_flatMap, List.mem_flatMap] at hw
  obtain ⟨op, hop, hw'⟩ := hw
  exact opEvents_aligned hs (hok op hop) w hw'

theorem opEvents_hdr {h h2 : Handle} (a0 : Arch) (hh : h2.hdr = h.hdr) (op : FOp) :
    opEvents h2 a0 op = opEvents h a0 op := by
  cases op with
  | single u => exact eventsFor_hdr hh
  | batch ps k now => rfl

theorem runFOps_reachS (o : FOps) (a0 : Arch) (ops : List FOp) :
    ∀ (h h' : Handle), Good h → h.archs[0]? = some a0 → ArchState h a0 →
      (∀ op ∈ ops, OpTimesOK a0 op) → runFOps o h ops = .ok h' →
      ReachS a0 h (ops.flatMap (opEvents h a0)) h' := by
  intro h h' g ha0 st hok hp
  induction ops generalizing h with
  | nil => cases hp; exact .of_sameOn (SameOn.refl a0 _)
  | cons op ops ih =>
    have hop := hok op (by simp)
    have step : ∀ hm, ReachS a0 h (opEvents h a0 op) hm ∧ Good hm ∧ hm.hdr = h.hdr → runFOps o hm ops = .ok h' →
        ReachS a0 h ((op :: ops).flatMap (opEvents h a0)) h' := by
      rintro hm ⟨r1, gm, hh⟩ hrest
      have e : hm.archs = h.archs := congrArg Header.archives hh
      have r2 := ih hm gm (e ▸ ha0)
        (reachS_reads st (opEvents_aligned st.facts.1 hop) r1).1 (fun x hx => hok x (by simp [hx])) hrest
      rw [funext (opEvents_hdr a0 hh)] at r2
      exact ReachS.append a0 _ _ h hm h' r1 r2
    cases op with
    | single u =>
      simp only [runFOps] at hp
      split at hp
      · cases hp
      · rename_i hm hu
        have ⟨r1, gm, hh⟩ := updatePoint_reach o h hm g a0 ha0 u hu
        exact step hm ⟨r1.toS, gm, hh⟩ hp
    | batch ps k now =>
      simp only [runFOps] at hp
      split at hp
      · cases hp
      · exact step _ (updateMany_reachS o h _ g a0 ha0 st ps k now hop ‹_›) hp

/-- **from `Create` on, through any mixture of single and batch updates**: the finest
    archive reads, for every grid interval, the last value written to it — NaN if a later
    lap took the slot or nothing was written there.  The writes are: for a single update
    routed to the finest archive, its aligned point; for a batch, the aligned points of the
    share of the (stably time-sorted) batch that is younger than the finest retention, in
    order, consecutive points of one interval merged as ⟦alignPoints⟧ does. -/
theorem created_then_any_updates (o : FOps) (agg : Nat) (xff : UInt32) (lay : List (Int × Nat)) (hl : LayInRange lay)
    (disk : Bytes) (h h' : Handle) (hc : createHandle o agg xff lay = .ok (disk, h))
    (a0 : Arch) (ha0 : h.archs[0]? = some a0) (ops : List FOp)
    (hok : ∀ op ∈ ops, OpTimesOK a0 op) (hp : runFOps o h ops = .ok h') :
    ∀ J : Nat, J < 2147483648 → a0.step ∣ (J : Int) → J ≠ 0 →
      ringValue h' a0 (slotAt h' a0 0).t J =
        histValue a0 (writesOf (ops.flatMap (opEvents h a0))) (fun _ => nanBits) J := by
  have fr := created_fresh o agg xff lay hl disk h hc a0 (List.mem_of_getElem? ha0)
  exact history_fresh a0 (none :: _) h h' fr (opsEvents_aligned fr.hs hok)
    (runFOps_reachS o a0 ops h h' (create_good o agg xff lay hl disk h hc) ha0 (Or.inl fr) hok hp).reach

/-- the same, as what a fetch of the finest archive returns: inside the zone, each value of
    the returned window is the one the history assigns to its interval -/
theorem created_then_any_updates_fetch (o : FOps) (agg : Nat) (xff : UInt32) (lay : List (Int × Nat)) (hl : LayInRange lay)
    (disk : Bytes) (h h' : Handle) (hc : createHandle o agg xff lay = .ok (disk, h))
    (p : FetchPlan) (ha0 : h.archs[0]? = some p.a) (ops : List FOp)
    (hok : ∀ op ∈ ops, OpTimesOK p.a op) (hp : runFOps o h ops = .ok h')
    (hw : (slotAt h' p.a 0).t ≠ 0) (hf0 : p.fromI ≠ 0)
    (z : RingZone p.a (slotAt h' p.a 0).t p.fromI p.untilI) :
    h'.fetchExec p = .ok ⟨p.fromI, p.untilI, p.a.step,
      (List.range (winCount p.a p.fromI p.untilI)).map fun i =>
        histValue p.a (writesOf (ops.flatMap (opEvents h p.a))) (fun _ => nanBits) (p.fromI + p.a.step.toNat * i)⟩ := by
  have fr := created_fresh o agg xff lay hl disk h hc p.a (List.mem_of_getElem? ha0)
  have r := runFOps_reachS o p.a ops h h' (create_good o agg xff lay hl disk h hc) ha0 (Or.inl fr) hok hp
  rcases (reachS_reads (Or.inl fr) (opsEvents_aligned fr.hs hok) r).1 with fr' | ⟨lv', al'⟩
  · exact absurd (fr'.zero 0 fr'.hn) hw
  · rw [fetch_refines_ring h' p _ z lv'.baseInterval lv'.b0 lv'.view lv'.fit]
    refine congrArg (fun vs => (.ok ⟨p.fromI, p.untilI, p.a.step, vs⟩ : R Series))
      (List.map_congr_left fun i hi => ?_)
    have gi := z.onGrid (List.mem_range.1 hi)
    exact created_then_any_updates o agg xff lay hl disk h h' hc p.a ha0 ops hok hp _ gi.lt
      (by have := Int.dvd_add gi.al al'; rwa [Int.sub_add_cancel] at this)
      fun e => hf0 (Nat.add_eq_zero_iff.1 e).1

end Wsp.C01
