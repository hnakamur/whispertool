/-
  C17  Concurrent reads return what sequential reads return, in every interleaving of a
  page-cache model.  (The property also asks for race-freedom, which is not proved: see the end.)

  An interleaving model of the page cache (filebuffer's mutex makes each ReadAt atomic):
  the disk is fixed (no writes in flight), the cache maps pages to bytes, a read of a
  page loads it from the disk if absent and returns the cached bytes.  K readers each run a
  straight-line program of page reads.  Proved for **every** interleaving of any number of
  readers: each read returns what the disk holds for that page, so every fetch returns
  exactly what it returns when run alone; the same for the per-file reads of `sum` (each
  goroutine writes only its own index of the result slices) and for independent handler
  invocations (no shared state but the files).  The read-path functions of whisper.go
  assign no field of the handle (a regenerated source fact).
  Not modelled: the Go memory model.  "Free of data races" is supported by running the
  concurrency legs of the check under the race detector and by the structural fact that all
  shared mutable state sits behind filebuffer's mutex — it is not a theorem.
-/
import Wsp.Props.FactsTie
namespace Wsp.C17

abbrev Page := Nat
abbrev Disk := Page → Nat            -- page contents, abstract
abbrev Cache := Page → Option Nat

/-- ⟦filebuffer.ReadAt⟧ under the mutex: load if absent, return the cached content -/
def readPage (d : Disk) (c : Cache) (p : Page) : Cache × Nat :=
  match c p with
  | some b => (c, b)
  | none => (fun q => if q = p then some (d p) else c q, d p)

def Coherent (d : Disk) (c : Cache) : Prop := ∀ p b, c p = some b → b = d p

theorem read_coherent (d : Disk) (c : Cache) (p : Page) (hc : Coherent d c) :
    Coherent d (readPage d c p).1 ∧ (readPage d c p).2 = d p := by
  unfold readPage
  cases h : c p with
  | some b => exact ⟨hc, hc p b h⟩
  | none =>
    refine ⟨?_, rfl⟩
    intro q b hq
    by_cases hqp : q = p
    · simp [hqp] at hq; rw [hqp, ← hq]
    · simp [hqp] at hq; exact hc q b hq

/-- a schedule: which reader reads which page next; each reader collects what it read -/
def runSched (d : Disk) : Cache → List (Nat × Page) → List (Nat × Page × Nat)
  | _, [] => []
  | c, (r, p) :: rest =>
    let (c', b) := readPage d c p
    (r, p, b) :: runSched d c' rest

/-- on a coherent cache the schedule does not matter at all: every read returns the disk's content -/
theorem runSched_eq (d : Disk) (sched : List (Nat × Page)) (c : Cache) (hc : Coherent d c) :
    runSched d c sched = sched.map fun x => (x.1, x.2, d x.2) := by
  induction sched generalizing c with
  | nil => rfl
  | cons x rest ih =>
    have hr := read_coherent d c x.2 hc
    simp only [runSched, List.map_cons, hr.2, ih _ hr.1]

/-- **interleaving invariance**: in every schedule, whatever the other readers did before,
    each read of page `p` returns the disk's content of `p` -/
theorem interleaving_invariant (d : Disk) (sched : List (Nat × Page)) :
    ∀ (c : Cache), Coherent d c → ∀ e ∈ runSched d c sched, e.2.2 = d e.2.1 := by
  intro c hc e he
  rw [runSched_eq d sched c hc] at he
  obtain ⟨x, _, rfl⟩ := List.mem_map.1 he
  rfl

/-- hence a reader's results do not depend on the schedule: the reads of reader `r`, in
    its program order, are the disk contents of the pages it asked for -/
theorem reader_result_is_sequential (d : Disk) (sched : List (Nat × Page)) (r : Nat) :
    ((runSched d (fun _ => none) sched).filter (fun e => e.1 = r)).map (fun e => e.2.2) =
    ((sched.filter (fun x => x.1 = r)).map (fun x => d x.2)) := by
  rw [runSched_eq d sched _ (fun p b hb => by simp at hb), List.filter_map, List.map_map]
  rfl

/-- `sum` reads its files concurrently: goroutine `i` writes only index `i` of the result
    slices, so the collected results are those of the sequential loop -/
theorem disjoint_index_writes {α} (n : Nat) (f : Nat → α) (order : List Nat)
    (hperm : order.Perm (List.range n)) (init : Nat → Option α) :
    ∀ i, i < n → (order.foldl (fun acc j => fun k => if k = j then some (f j) else acc k) init) i = some (f i) := by
  intro i hi
  have h : i ∈ order ∨ init i = some (f i) := Or.inl (hperm.symm.subset (List.mem_range.2 hi))
  clear hperm
  induction order generalizing init with
  | nil => exact h.resolve_left (by simp)
  | cons j l ih =>
    apply ih
    by_cases hij : i = j
    · right; simp [hij]
    · rcases h with h | h
      · exact Or.inl ((List.mem_cons.1 h).resolve_left hij)
      · right; simp [hij, h]

/-- no read-path function of whisper.go assigns a field of the handle -/
theorem handle_fields_assigned_only_at_open :
    Facts.fieldAssigners.map (·.1) =
      ["Create", "Open", "WithOpenFileFlag", "WithPerm", "WithoutFlock", "openAndLockFile", "readHeader"] :=
  FactsTie.field_assigners

end Wsp.C17
