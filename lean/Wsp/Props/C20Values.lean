/-
  C20, the value clauses, as theorems about the model of ⟦randomPointsList⟧ (Model/Gen.lean)
  for every random stream:
  * every archive gets one point per slot of its retention, in time order;
  * every generated value of archive k is at most max·S_k/S_0;
  * a coarser point at or after the first finer point is the sum of the finer points of its slot.
  The three clauses are the predicate `Shape`; `generated_values` proves it of ⟦randomPointsList⟧,
  `values_bounded` reads the bound off it archive by archive.
-/
import Wsp.Model.Gen
namespace Wsp.Gen

/-- consecutive points `step` apart, starting at `h0` -/
def ptsAt (h0 s : Nat) : List Nat → List GP
  | [] => []
  | w :: ws => ⟨h0, w⟩ :: ptsAt (h0 + s) s ws

theorem mem_ptsAt {h0 s : Nat} {ws : List Nat} {p : GP} (hp : p ∈ ptsAt h0 s ws) :
    ∃ k, k < ws.length ∧ p.t = h0 + k * s ∧ p.v ∈ ws := by
  induction ws generalizing h0 with
  | nil => simp [ptsAt] at hp
  | cons w ws ih =>
    simp only [ptsAt, List.mem_cons] at hp
    rcases hp with rfl | hp
    · exact ⟨0, by simp, by simp, by simp⟩
    · obtain ⟨k, hk, ht, hv⟩ := ih hp
      exact ⟨k + 1, by simpa using hk, by rw [ht, Nat.succ_mul]; omega, List.mem_cons_of_mem _ hv⟩

theorem draw_le (ds : List Nat) (k : Nat) : (draw ds k).1 ≤ k := by
  cases ds with
  | nil => exact Nat.zero_le k
  | cons d ds => exact Nat.le_of_lt_succ (Nat.mod_lt d (Nat.succ_pos k))

theorem trunc_window (h S : Nat) (hS : 0 < S) : trunc h S ≤ h ∧ h < trunc h S + S := by
  unfold trunc
  rw [if_neg (by omega)]
  have := Nat.mod_lt h hS
  omega

theorem trunc_le (h S : Nat) : trunc h S ≤ h := by
  unfold trunc; split <;> omega

/-- number of points of the list inside `[lo, hi)` -/
def inWin (lo hi : Nat) (pts : List GP) : Nat := (pts.filter fun p => lo ≤ p.t ∧ p.t < hi).length

theorem inWin_cons (lo hi : Nat) (p : GP) (pts : List GP) :
    inWin lo hi (p :: pts) = (if lo ≤ p.t ∧ p.t < hi then 1 else 0) + inWin lo hi pts := by
  unfold inWin
  by_cases h : lo ≤ p.t ∧ p.t < hi
  · simp [h]; omega
  · simp [h]

/-- the finer values a coarser slot adds up are at most `hm` each, and only points inside
    the slot's window are added -/
theorem highSum_le (S t hm : Nat) (hS : 0 < S) : ∀ pts : List GP, (∀ p ∈ pts, p.v ≤ hm) →
    highSum S t pts ≤ hm * inWin t (t + S) pts := by
  intro pts hb
  induction pts with
  | nil => simp [highSum]
  | cons p pts ih =>
    have ih' := ih (fun q hq => hb q (List.mem_cons_of_mem _ hq))
    simp only [highSum, inWin_cons, Nat.mul_add]
    split
    · exact Nat.le_trans ih' (Nat.le_add_left ..)
    · split
      · exact Nat.zero_le _
      · have w := trunc_window p.t S hS
        have := hb p (by simp)
        rw [if_pos (by omega), Nat.mul_one]
        omega

/-- points `s` apart: those inside a window, times `s`, fit in the window (up to one step), counted from its
    start or from the first point -/
theorem inWin_ptsAt_lt (lo hi s : Nat) : ∀ (ws : List Nat) (h0 : Nat), 0 < inWin lo hi (ptsAt h0 s ws) →
    inWin lo hi (ptsAt h0 s ws) * s + lo < hi + s ∧ inWin lo hi (ptsAt h0 s ws) * s + h0 < hi + s := by
  intro ws h0 hpos
  induction ws generalizing h0 with
  | nil => simp [ptsAt, inWin] at hpos
  | cons w ws ih =>
    simp only [ptsAt, inWin_cons, Nat.add_mul] at hpos ⊢
    rcases Nat.eq_zero_or_pos (inWin lo hi (ptsAt (h0 + s) s ws)) with hz | hc
    · rw [hz] at hpos ⊢
      have hin : lo ≤ h0 ∧ h0 < hi := Decidable.by_contra fun h => by rw [if_neg h] at hpos; omega
      rw [if_pos hin]
      omega
    · have := ih (h0 + s) hc
      split <;> omega

theorem inWin_ptsAt (lo hi s : Nat) (hs : 0 < s) : ∀ (ws : List Nat) (h0 : Nat),
    0 < inWin lo hi (ptsAt h0 s ws) → inWin lo hi (ptsAt h0 s ws) * s + max lo h0 ≤ hi + s - 1 := by
  -- `hs` is not needed
  intro ws h0 hpos
  have := inWin_ptsAt_lt lo hi s ws h0 hpos
  omega

/-- the same count, as a bound in steps: with the filler for the `(h0 - t) / s` steps before the
    first point, at most `r` when the window is `r` steps wide and the points begin before its end -/
theorem inWin_count (t s r : Nat) (hs : 0 < s) (ws : List Nat) (h0 : Nat) (hlt : h0 - t < r * s) :
    inWin t (t + r * s) (ptsAt h0 s ws) + (h0 - t) / s ≤ r := by
  rcases Nat.eq_zero_or_pos (inWin t (t + r * s) (ptsAt h0 s ws)) with hz | hc
  · have := (Nat.div_lt_iff_lt_mul hs).2 hlt
    omega
  · have h1 := inWin_ptsAt_lt t (t + r * s) s ws h0 hc
    have h2 : (h0 - t) / s * s ≤ h0 - t := Nat.div_mul_le_self _ _
    have h3 : (inWin t (t + r * s) (ptsAt h0 s ws) + (h0 - t) / s) * s < (r + 1) * s := by
      rw [Nat.add_mul, Nat.add_mul, Nat.one_mul]
      omega
    exact Nat.le_of_lt_succ (Nat.lt_of_mul_lt_mul_right h3)

theorem ptsAt_length (h0 s : Nat) (ws : List Nat) : (ptsAt h0 s ws).length = ws.length := by
  induction ws generalizing h0 with
  | nil => rfl
  | cons w ws ih => simp [ptsAt, ih]

/-- **a value computed from the finer archive is within the coarser bound**: the finer points
    of the slot (each at most `hm`) and, where the finer points begin inside the slot, the
    random filler for the `n` missing steps (`n · Intn(hm+1)`) together never exceed `r · hm`,
    `r` the ratio of the steps -/
theorem valWithHighSum_le (t s r hm : Nat) (hs : 0 < s) (h0 : Nat) (ws : List Nat) (ds : List Nat)
    (hw : ∀ w ∈ ws, w ≤ hm) (hst : trunc h0 (r * s) ≤ t) (hr : 0 < r) :
    (valWithHighSum t (r * s) ⟨s, hm, ptsAt h0 s ws⟩ ds).1 ≤ r * hm := by
  have hS : 0 < r * s := Nat.mul_pos hr hs
  have hsum := highSum_le (r * s) t hm hS (ptsAt h0 s ws) fun p hp =>
    let ⟨_, _, _, hv⟩ := mem_ptsAt hp; hw _ hv
  have hwin := trunc_window h0 (r * s) hS
  have hcnt := Nat.mul_le_mul_left hm (inWin_count t s r hs ws h0 (by omega))
  -- the filler is for no step at all when the slot begins at or after the first finer point
  have hval : (valWithHighSum t (r * s) ⟨s, hm, ptsAt h0 s ws⟩ ds).1 ≤
      highSum (r * s) t (ptsAt h0 s ws) + hm * ((h0 - t) / s) := by
    unfold valWithHighSum
    cases ws with
    | nil => exact Nat.le_add_right _ _
    | cons w ws' =>
      simp only [ptsAt]
      split
      · exact Nat.le_add_right _ _
      · rw [Nat.mul_comm hm]
        exact Nat.add_le_add_left (Nat.mul_le_mul_left _ (draw_le ds hm)) _
  rw [Nat.mul_add] at hcnt
  rw [Nat.mul_comm r hm]
  omega

/-- what ⟦randomPoints⟧ knows of the finer archive when it computes archive values -/
def HiInv (S rndMax hst : Nat) : Option High → Prop
  | none => True
  | some h => ∃ r h0 ws, h.pts = ptsAt h0 h.step ws ∧ 0 < h.step ∧ 0 < r ∧ S = r * h.step ∧
      (∀ w ∈ ws, w ≤ h.rndMax) ∧ r * h.rndMax ≤ rndMax ∧ (hst ≠ 0 → hst = trunc h0 S)

theorem pointVal_le {S rndMax hst : Nat} {hi : Option High} (inv : HiInv S rndMax hst hi) (t : Nat) (ds : List Nat) :
    (pointVal S hst rndMax hi t ds).1 ≤ rndMax := by
  unfold pointVal
  split
  · exact draw_le ds rndMax
  · cases hi with
    | none => exact draw_le ds rndMax
    | some h =>
      obtain ⟨r, h0, ws, hpts, hs, hr, rfl, hw, hle, hh⟩ := inv
      show (valWithHighSum _ _ ⟨h.step, h.rndMax, h.pts⟩ ds).1 ≤ rndMax
      rw [hpts]
      exact Nat.le_trans (valWithHighSum_le _ _ r _ hs h0 ws ds hw (by rw [← hh (by omega)]; omega) hr) hle

/-- **the loop of ⟦randomPoints⟧**: `m` consecutive points ending at `thisUntil`, each value
    at most `rndMax` -/
theorem pointsLoop_spec (S U hst rndMax : Nat) (hi : Option High) (inv : HiInv S rndMax hst hi) :
    ∀ (m : Nat) (ds : List Nat), m * S ≤ U + S →
      ∃ vs, vs.length = m ∧ (pointsLoop S U hst rndMax hi m ds).1 = ptsAt (U + S - m * S) S vs ∧
        ∀ v ∈ vs, v ≤ rndMax := by
  intro m ds hm
  induction m generalizing ds with
  | zero => exact ⟨[], rfl, rfl, by simp⟩
  | succ m ih =>
    have hm' : m * S ≤ U := by rw [Nat.succ_mul] at hm; omega
    simp only [pointsLoop]
    have hv := pointVal_le inv (U - m * S) ds
    generalize (pointVal S hst rndMax hi (U - m * S) ds) = r at hv ⊢
    obtain ⟨vs, hl, hsh, hb⟩ := ih r.2 (by omega)
    refine ⟨r.1 :: vs, by simp [hl], ?_, List.forall_mem_cons.2 ⟨hv, hb⟩⟩
    rw [hsh, Nat.succ_mul, Nat.add_sub_add_right, ptsAt, Nat.sub_add_comm hm']

/-- what the chain of archives hands to the next one -/
def HiOK (s0 max : Nat) : Option High → Prop
  | none => True
  | some h => ∃ h0 ws, h.pts = ptsAt h0 h.step ws ∧ ws ≠ [] ∧ 0 < h.step ∧ (∀ w ∈ ws, w ≤ h.rndMax) ∧
      h.rndMax = max * h.step / s0

/-- the bound of a coarser archive covers `r` finer values -/
theorem ratio_bound {max s0 s r : Nat} (hs0 : 0 < s0) : r * (max * s / s0) ≤ max * (r * s) / s0 := by
  rw [Nat.le_div_iff_mul_le hs0, Nat.mul_assoc, Nat.mul_left_comm max]
  exact Nat.mul_le_mul_left _ (Nat.div_mul_le_self _ _)

/-- the number of points ⟦randomPoints⟧ makes for an archive -/
def count (a : GA) (until_ now : Nat) : Nat :=
  (a.step * a.n - (trunc now a.step - trunc until_ a.step)) / a.step

/-- the time of its first point -/
def firstT (a : GA) (until_ now : Nat) : Nat :=
  trunc until_ a.step + a.step - count a until_ now * a.step

theorem trunc_eq_mul (h S : Nat) (hS : 0 < S) : trunc h S = S * (h / S) := by
  unfold trunc
  rw [if_neg (by omega)]
  have := Nat.div_add_mod h S
  omega

theorem trunc_mono (a b S : Nat) (hab : a ≤ b) : trunc a S ≤ trunc b S := by
  by_cases hS : S = 0
  · unfold trunc; rw [if_pos hS, if_pos hS]; exact hab
  · rw [trunc_eq_mul a S (by omega), trunc_eq_mul b S (by omega)]
    exact Nat.mul_le_mul_left _ (Nat.div_le_div_right hab)

/-- on points in time order the skip-and-stop loop adds exactly the points of the slot -/
theorem highSum_eq_filter (S t s : Nat) : ∀ (ws : List Nat) (h0 : Nat),
    highSum S t (ptsAt h0 s ws) = (((ptsAt h0 s ws).filter fun p => trunc p.t S = t).map (·.v)).sum := by
  intro ws h0
  induction ws generalizing h0 with
  | nil => rfl
  | cons w ws ih =>
    simp only [ptsAt, highSum, List.filter_cons, decide_eq_true_eq]
    by_cases h1 : trunc h0 S < t
    · rw [if_pos h1, if_neg (Nat.ne_of_lt h1)]
      exact ih (h0 + s)
    · by_cases h2 : trunc h0 S > t
      · -- the points that follow are later still: none is in the slot
        rw [if_neg h1, if_pos h2, if_neg (Nat.ne_of_gt h2), List.filter_eq_nil_iff.2]
        · rfl
        · intro p hp
          obtain ⟨k, _, ht, _⟩ := mem_ptsAt hp
          have := trunc_mono h0 p.t S (by omega)
          simp only [decide_eq_true_eq]
          omega
      · rw [if_neg h1, if_neg h2, if_pos (Nat.le_antisymm (Nat.le_of_not_gt h2) (Nat.le_of_not_lt h1)), List.map_cons,
          List.sum_cons, ih (h0 + s)]

/-- **a coarser point at or after the first finer point is the sum of the finer points of
    its slot** (no random filler), for every point the loop produces -/
theorem pointsLoop_sum (S U hst rm : Nat) (h : High) (h0 : Nat) (ws : List Nat)
    (hpts : h.pts = ptsAt h0 h.step ws) (hne : ws ≠ []) (hhst : hst = trunc h0 S) (hpos : hst ≠ 0) :
    ∀ (m : Nat) (ds : List Nat), ∀ p ∈ (pointsLoop S U hst rm (some h) m ds).1, h0 ≤ p.t →
      p.v = ((h.pts.filter fun q => trunc q.t S = p.t).map (·.v)).sum := by
  intro m ds p hp hge
  induction m generalizing ds with
  | zero => simp [pointsLoop] at hp
  | succ m ih =>
    simp only [pointsLoop, List.mem_cons] at hp
    rcases hp with rfl | hp
    · simp only at hge ⊢
      have hle := Nat.le_trans (trunc_le h0 S) hge
      obtain ⟨w, ws', rfl⟩ := List.exists_cons_of_ne_nil hne
      unfold pointVal valWithHighSum
      simp only [if_neg (show ¬ (hst = 0 ∨ U - m * S < hst) by omega), hpts, ptsAt, if_pos hge]
      exact highSum_eq_filter S (U - m * S) h.step (w :: ws') h0
    · exact ih _ hp

/-- the layout facts the generator relies on: positive steps, each dividing the next -/
def StepsOK : Option Nat → List GA → Prop
  | _, [] => True
  | prev, a :: as => 0 < a.step ∧ (∀ s, prev = some s → s ∣ a.step) ∧ StepsOK (some a.step) as

/-- the clock zone: every retention fits before `until`, and every archive gets a point -/
def Zone (until_ now : Nat) (as : List GA) : Prop :=
  ∀ a ∈ as, a.step * a.n ≤ trunc until_ a.step + a.step ∧ 0 < count a until_ now

/-- what the generated lists look like, archive by archive -/
def Shape (s0 max until_ now : Nat) : Option (List GP) → List GA → List (List GP) → Prop
  | _, [], [] => True
  | fine, a :: as, pts :: pl =>
    (∃ vs, pts = ptsAt (firstT a until_ now) a.step vs ∧ vs.length = count a until_ now ∧
      ∀ v ∈ vs, v ≤ max * a.step / s0) ∧
    (∀ f f0, fine = some f → f.head? = some f0 → a.step ≤ f0.t → ∀ p ∈ pts, f0.t ≤ p.t →
      p.v = ((f.filter fun q => trunc q.t a.step = p.t).map (·.v)).sum) ∧
    Shape s0 max until_ now (some pts) as pl
  | _, _, _ => False

theorem count_mul_le (a : GA) (until_ now : Nat) (hz : a.step * a.n ≤ trunc until_ a.step + a.step) :
    count a until_ now * a.step ≤ trunc until_ a.step + a.step := by
  unfold count
  have h1 := Nat.div_mul_le_self (a.step * a.n - (trunc now a.step - trunc until_ a.step)) a.step
  omega

/-- **one archive, in full**: inside the zone ⟦randomPoints⟧ returns one point per step with
    bounded values (kept alone as `randomPoints_spec` below), and every point at or after the first
    finer point (when that lies a whole step after the epoch) is the sum of the finer points of its slot -/
theorem randomPoints_full (a : GA) (hi : Option High) (s0 max until_ now : Nat) (ds : List Nat)
    (hs0 : 0 < s0) (ha : 0 < a.step)
    (hz : a.step * a.n ≤ trunc until_ a.step + a.step)
    (hok : HiOK s0 max hi) (hdiv : ∀ h, hi = some h → h.step ∣ a.step) :
    ∃ vs ds', randomPoints a hi (max * a.step / s0) until_ now ds =
        some (ptsAt (firstT a until_ now) a.step vs, ds') ∧
      vs.length = count a until_ now ∧ (∀ v ∈ vs, v ≤ max * a.step / s0) ∧
      ∀ f f0, hi.map (·.pts) = some f → f.head? = some f0 → a.step ≤ f0.t →
        ∀ p ∈ ptsAt (firstT a until_ now) a.step vs, f0.t ≤ p.t →
          p.v = ((f.filter fun q => trunc q.t a.step = p.t).map (·.v)).sum := by
  have hcnt := count_mul_le a until_ now hz
  unfold randomPoints
  cases hi with
  | none =>
    obtain ⟨vs, hl, hsh, hb⟩ := pointsLoop_spec a.step (trunc until_ a.step) 0 (max * a.step / s0) none trivial
      (count a until_ now) ds hcnt
    exact ⟨vs, _, congrArg some (Prod.ext hsh rfl), hl, hb, fun f f0 e => nomatch e⟩
  | some h =>
    obtain ⟨h0, ws, hpts, hne, hs, hw, hrm⟩ := hok
    obtain ⟨w, ws', rfl⟩ := List.exists_cons_of_ne_nil hne
    obtain ⟨r, hr⟩ := hdiv h rfl
    -- the `hst` ⟦randomPoints⟧ computes: the slot of the first finer point, or 0 when that lies past `thisUntil`
    have inv : HiInv a.step (max * a.step / s0)
        (if h0 ≤ trunc until_ a.step then trunc h0 a.step else 0) (some h) := by
      refine ⟨r, h0, w :: ws', hpts, hs, Nat.pos_of_ne_zero (by rintro rfl; omega), by rw [hr]; exact Nat.mul_comm _ _,
        hw, ?_, ?_⟩
      · rw [hrm, hr, Nat.mul_comm h.step r]
        exact ratio_bound hs0
      · split <;> simp
    obtain ⟨vs, hl, hsh, hb⟩ := pointsLoop_spec a.step (trunc until_ a.step) _ (max * a.step / s0) (some h) inv
      (count a until_ now) ds hcnt
    simp only [hpts, ptsAt]
    refine ⟨vs, _, congrArg some (Prod.ext hsh rfl), hl, hb, ?_⟩
    rintro _ f0 ⟨⟩ hf0 hbig p hp hge
    simp only [hpts] at hf0
    cases hf0
    simp only at hbig hge
    -- the point is at or before `thisUntil`, so the finer archive begins there too
    have hle : h0 ≤ trunc until_ a.step := by
      obtain ⟨k, hk, ht, _⟩ := mem_ptsAt hp
      have := Nat.mul_le_mul_right a.step (Nat.succ_le_of_lt hk)
      rw [hl, Nat.succ_mul] at this; unfold firstT at ht
      omega
    unfold firstT at hp
    rw [← hsh, if_pos hle] at hp
    exact pointsLoop_sum a.step (trunc until_ a.step) (trunc h0 a.step) (max * a.step / s0) h h0 (w :: ws')
      hpts (by simp) rfl (by have := trunc_window h0 a.step ha; omega) _ ds p hp hge

/-- **one archive**: inside the zone ⟦randomPoints⟧ does not panic and returns one point per
    step, ending at the truncated `until`, each value at most `max·S/S_0` -/
theorem randomPoints_spec (a : GA) (hi : Option High) (s0 max until_ now : Nat) (ds : List Nat)
    (hs0 : 0 < s0) (ha : 0 < a.step)
    (hz : a.step * a.n ≤ trunc until_ a.step + a.step)
    (hok : HiOK s0 max hi) (hdiv : ∀ h, hi = some h → h.step ∣ a.step) :
    ∃ vs ds', randomPoints a hi (max * a.step / s0) until_ now ds =
        some (ptsAt (firstT a until_ now) a.step vs, ds') ∧
      vs.length = count a until_ now ∧ ∀ v ∈ vs, v ≤ max * a.step / s0 := by
  obtain ⟨vs, ds', h1, h2, h3, _⟩ := randomPoints_full a hi s0 max until_ now ds hs0 ha hz hok hdiv
  exact ⟨vs, ds', h1, h2, h3⟩

theorem pointsListFrom_spec (s0 max until_ now : Nat) (hs0 : 0 < s0) :
    ∀ (as : List GA) (hi : Option High) (ds : List Nat),
      StepsOK (hi.map (·.step)) as → Zone until_ now as → HiOK s0 max hi →
      ∃ pl, pointsListFrom s0 max until_ now as hi ds = some pl ∧
        Shape s0 max until_ now (hi.map (·.pts)) as pl := by
  intro as hi ds hst hz hok
  induction as generalizing hi ds with
  | nil => exact ⟨[], rfl, trivial⟩
  | cons a as ih =>
    obtain ⟨ha, hdiv, hrest⟩ := hst
    obtain ⟨hza, hcpos⟩ := hz a (by simp)
    obtain ⟨vs, ds', hrp, hl, hb, hsum⟩ := randomPoints_full a hi s0 max until_ now ds hs0 ha hza hok
      (fun h e => hdiv h.step (by rw [e]; rfl))
    have hvne : vs ≠ [] := by
      intro e; rw [e] at hl; simp at hl; omega
    obtain ⟨pl, hpl, hsh⟩ := ih (some ⟨a.step, max * a.step / s0, ptsAt (firstT a until_ now) a.step vs⟩) ds'
      hrest (fun b hb' => hz b (List.mem_cons_of_mem _ hb')) ⟨firstT a until_ now, vs, rfl, hvne, ha, hb, rfl⟩
    simp only [pointsListFrom, hrp, hpl]
    exact ⟨_, rfl, ⟨vs, rfl, hl, hb⟩, hsum, hsh⟩

/-- **C20, the value clauses**: for every layout with positive steps each dividing the next,
    inside the clock zone, and for every random stream, ⟦randomPointsList⟧ does not panic and
    produces, per archive, one point per step ending at the truncated `until`, each value at
    most `max·S_k/S_0`, every coarser point at or after the first finer point being the sum of
    the finer points of its slot -/
theorem generated_values (as : List GA) (a0 : GA) (rest : List GA) (has : as = a0 :: rest)
    (max until_ now : Nat) (ds : List Nat) (hst : StepsOK none as) (hz : Zone until_ now as) :
    ∃ pl, pointsList as max until_ now ds = some pl ∧ Shape a0.step max until_ now none as pl := by
  subst has
  unfold pointsList
  simp only
  exact pointsListFrom_spec a0.step max until_ now hst.1 (a0 :: rest) none ds hst hz trivial

theorem values_bounded (s0 max until_ now : Nat) : ∀ (as : List GA) (fine : Option (List GP)) (pl : List (List GP)),
    Shape s0 max until_ now fine as pl →
    ∀ (k : Nat) (a : GA) (pts : List GP), as[k]? = some a → pl[k]? = some pts → ∀ p ∈ pts, p.v ≤ max * a.step / s0 := by
  intro as fine pl hsh k a pts hk hp
  induction as generalizing fine pl k with
  | nil => simp at hk
  | cons a0 as ih =>
    cases pl with
    | nil => exact hsh.elim
    | cons pts0 pl =>
      obtain ⟨⟨vs, e, _, hb⟩, _, hrest⟩ := hsh
      cases k with
      | zero =>
        cases hk; cases hp
        rw [e]
        exact fun p hpm => let ⟨_, _, _, hv⟩ := mem_ptsAt hpm; hb _ hv
      | succ k => exact ih _ _ hrest k hk hp

/-- the hypotheses are satisfiable: 1s:6, 3s:4 at clock 1000 -/
example : StepsOK none [⟨1, 6⟩, ⟨3, 4⟩] ∧ Zone 1000 1000 [⟨1, 6⟩, ⟨3, 4⟩] := by
  refine ⟨⟨by decide, by intro s h; simp at h, by decide, by intro s h; simp at h; subst h; decide, trivial⟩, ?_⟩
  intro a ha
  simp only [List.mem_cons, List.not_mem_nil, or_false] at ha
  rcases ha with rfl | rfl <;> decide

end Wsp.Gen
