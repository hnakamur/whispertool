/-
  C01 at system level: through ANY sequence of single updates of a file — each routed to the
  archive its age selects or to a named one, each followed by its propagation chain — the
  finest archive reads, for every interval, the last value written to it unless a later lap
  took its slot (then NaN).  Updates routed to other archives and every propagation step
  leave the finest archive's slots alone (`propagateChain_frameFrom`), so its history is exactly
  the list of writes routed to it.
-/
import Wsp.Props.C01History
import Wsp.Props.Total
namespace Wsp.C01
open Wsp.Handle Wsp.C14 Wsp.Total

variable {a : Arch}

structure Upd where
  k : Int
  t : Nat
  v : Val
  now : Nat

def chosen (h : Handle) (u : Upd) : Nat :=
  if u.k = -1 then h.findBestArchive u.t u.now else u.k.toNat

def runUpds (o : FOps) : Handle → List Upd → R Handle
  | h, [] => .ok h
  | h, u :: us =>
    match h.updatePoint o u.k u.t u.v u.now with
    | .error e => .error e
    | .ok h' => runUpds o h' us

/-- what each update means for archive `a` at index `id` -/
def eventsFor (h : Handle) (id : Nat) (a : Arch) (us : List Upd) : List (Option (Nat × Val)) :=
  us.map fun u => if chosen h u = id then some (a.intervalForWrite u.t, u.v) else none

/-- routing reads the header only -/
theorem eventsFor_hdr {h h2 : Handle} (hh : h2.hdr = h.hdr) {id : Nat} {us : List Upd} :
    eventsFor h2 id a us = eventsFor h id a us := by
  unfold eventsFor chosen findBestArchive Handle.archs
  rw [hh]

theorem frame_sameOn {E : Nat} {h1 h2 : Handle} (a : Arch) (f : Frame E h1 h2) (hE : a.offset + 12 * a.n ≤ E) :
    SameOn a h1 h2 :=
  ⟨f.2.1, fun j hj => slotAt_of_take f.2.2 a j (by omega)⟩

/-- a single event, then the rest: the event's trailing `SameOn` joins the one that opens the rest -/
theorem Reach.cons {e : Option (Nat × Val)} {es : List (Option (Nat × Val))} {h hm h' : Handle}
    (r1 : Reach a h [e] hm) (r2 : Reach a hm es h') : Reach a h (e :: es) h' := by
  cases e with
  | none => obtain ⟨_, s1, s2⟩ := r1; exact ⟨hm, s1.trans s2, r2⟩
  | some w => obtain ⟨off, h1, _, hg, hput, s1, s2⟩ := r1; exact ⟨off, h1, hm, hg, hput, s1.trans s2, r2⟩

/-- one update, seen from the finest archive -/
theorem updatePoint_reach (o : FOps) (h h' : Handle) (g : Good h) (a0 : Arch) (ha0 : h.archs[0]? = some a0)
    (u : Upd) (hp : h.updatePoint o u.k u.t u.v u.now = .ok h') :
    Reach a0 h (eventsFor h 0 a0 [u]) h' ∧ Good h' ∧ h'.hdr = h.hdr := by
  have fr := updatePoint_frame o h h' g.placed u.k u.t u.v u.now hp
  refine ⟨?_, g.of_frame fr, fr.1⟩
  obtain ⟨_, a, off, hm, ha, hg, hput, hc⟩ := updatePoint_eq_ok hp
  have hch : chosen h u = C02S.routed h u.k u.t u.now := rfl
  simp only [eventsFor, List.map_cons, List.map_nil, hch]
  generalize C02S.routed h u.k u.t u.now = id at ha hc
  have hs : h.store a ⟨a.intervalForWrite u.t, u.v⟩ = .ok hm := store_ok_iff.2 ⟨off, hg, hput⟩
  have pf0 := g.placedFrom ha0
  -- the propagation chain lies behind the finest archive, whichever archive was written
  have s2 : SameOn a0 hm h' := frame_sameOn a0 (propagateChain_frameFrom o hm h' id
    ((pf0.of_frame (store_frame (g.placed a (List.mem_of_getElem? ha)) hs)).mono (Nat.succ_le_succ (Nat.zero_le id)))
    _ hc) (Nat.le_refl _)
  by_cases h0 : id = 0
  · subst h0
    cases ha0.symm.trans ha
    rw [if_pos rfl]
    exact ⟨off, hm, h', hg, hput, s2, SameOn.refl a0 h'⟩
  · -- routed elsewhere: so does the write
    rw [if_neg h0]
    exact ⟨h', (frame_sameOn a0 (store_frame (pf0 id a (Nat.pos_of_ne_zero h0) ha) hs) (Nat.le_refl _)).trans s2, SameOn.refl a0 h'⟩

/-- any successful sequence of single updates is, for the finest archive, the sequence of
    the writes routed to it -/
theorem runUpds_reach (o : FOps) (a0 : Arch) (us : List Upd) :
    ∀ (h h' : Handle), Good h → h.archs[0]? = some a0 → runUpds o h us = .ok h' →
      Reach a0 h (eventsFor h 0 a0 us) h' := by
  intro h h' g ha0 hp
  induction us generalizing h with
  | nil => cases hp; exact SameOn.refl a0 _
  | cons u us ih =>
    simp only [runUpds] at hp
    split at hp
    · cases hp
    rename_i hm hu
    obtain ⟨r1, gm, hhdr⟩ := updatePoint_reach o h hm g a0 ha0 u hu
    have e : hm.archs = h.archs := congrArg Header.archives hhdr
    have r2 := ih hm gm (e ▸ ha0) hp
    rw [eventsFor_hdr hhdr] at r2
    exact r1.cons r2

def TimeOK (a0 : Arch) (t : Nat) : Prop := t < 2147483648 ∧ a0.step ≤ t

def AbsGrid (a : Arch) (t : Nat) : Prop := t < 2147483648 ∧ a.step ∣ (t : Int) ∧ t ≠ 0

theorem AbsGrid.onGrid {t B : Nat} (gt : AbsGrid a t) (hB : a.step ∣ (B : Int)) : OnGrid a B t ∧ t ≠ 0 :=
  ⟨⟨gt.1, Int.dvd_sub gt.2.1 hB⟩, gt.2.2⟩

/-- aligning a time `t ≥ L` to a step that divides `L`: a nonzero grid time, still at least `L` -/
theorem ifw_level (hs : 0 < a.step) {L t : Nat} (hd : a.step ∣ (L : Int)) (hle : a.step ≤ (L : Int))
    (ht : t < 2147483648) (hL : L ≤ t) :
    AbsGrid a (a.intervalForWrite t) ∧ L ≤ a.intervalForWrite t := by
  obtain ⟨hdv, hlt, hgt⟩ := C02S.ifw_contains hs (t := t) (Nat.lt_trans ht (by decide))
  -- `L` and the aligned time are both on the grid and less than a step apart
  have hLle : (L : Int) ≤ a.intervalForWrite t :=
    Int.not_lt.1 fun h => by have := Int.le_of_dvd (by omega) (Int.dvd_sub hd hdv); omega
  exact ⟨⟨Nat.lt_of_le_of_lt hlt ht, hdv, by omega⟩, Int.ofNat_le.1 hLle⟩

theorem aligned_ok (hs : 0 < a.step) {q : Nat} (hq : TimeOK a q) : AbsGrid a (a.intervalForWrite q) :=
  (ifw_level hs (L := a.step.toNat) (by rw [Int.toNat_of_nonneg (by omega)]; exact Int.dvd_refl _) (by omega)
    hq.1 (by have := hq.2; omega)).1

theorem eventsFor_aligned {h : Handle} {k : Nat} (hs : 0 < a.step) {us : List Upd}
    (hts : ∀ u ∈ us, TimeOK a u.t) : ∀ w ∈ writesOf (eventsFor h k a us), AbsGrid a w.1 := by
  intro w hw
  simp only [writesOf, eventsFor, List.mem_filterMap, List.mem_map, id] at hw
  obtain ⟨e, ⟨u, hu, he⟩, rfl⟩ := hw
  split at he
  · cases he
    exact aligned_ok hs (hts u hu)
  · cases he

/-- **the finest archive of a created file, after any sequence of single updates**: each
    grid interval reads the last value written to it, NaN if a later lap took its slot or
    nothing was ever written there — whatever was routed to the other archives and
    whatever propagation did in between -/
theorem finest_reads_last_write (o : FOps) (h h' : Handle) (a0 : Arch) (us : List Upd)
    (g : Good h) (ha0 : h.archs[0]? = some a0) (fr : Fresh h a0)
    (hts : ∀ u ∈ us, u.t < 2147483648 ∧ a0.step ≤ u.t)
    (hp : runUpds o h us = .ok h') :
    ∀ J : Nat, J < 2147483648 → a0.step ∣ (J : Int) → J ≠ 0 →
      ringValue h' a0 (slotAt h' a0 0).t J =
        histValue a0 (writesOf (eventsFor h 0 a0 us)) (fun _ => nanBits) J :=
  history_fresh a0 _ h h' fr (eventsFor_aligned fr.hs hts) (runUpds_reach o a0 us h h' g ha0 hp)

/-- every archive of a file `Create` returns is fresh -/
theorem created_fresh (o : FOps) (agg : Nat) (xff : UInt32) (lay : List (Int × Nat)) (hl : LayInRange lay)
    (disk : Bytes) (h : Handle) (hc : createHandle o agg xff lay = .ok (disk, h)) (a : Arch) (ha : a ∈ h.archs) :
    Fresh h a := by
  obtain ⟨hnew, -, -, hv⟩ := createHandle_ok_iff.1 hc
  have wf := newHeader_wf hl hnew
  have g : Good h := .of_wf wf
  have pa := g.placed a ha
  have hlen := C05.create_length o agg xff lay disk h hc
  refine ⟨(g.hdrOK.steps a ha).1, pa.npos, pa.fit, ?_, fun j hj => ?_⟩
  · rw [hlen.2.1, hlen.1, expectedFileSize_eq wf.count]; exact pa.hi
  · -- the slots lie behind the encoded header, in the zeros the file was created with
    have hlo := pa.lo
    show de32 (h.view.drop _) = 0
    rw [hv, List.drop_append, List.drop_eq_nil_of_le (by rw [encHeader_length]; omega), List.nil_append,
      List.drop_replicate, C20.de32_zeros]

/-- **from `Create` on**: after any successful sequence of single updates of a created file,
    the finest archive reads back, for every grid interval, the last value written to it —
    NaN if a later lap took the slot or nothing was written there -/
theorem created_then_updates (o : FOps) (agg : Nat) (xff : UInt32) (lay : List (Int × Nat)) (hl : LayInRange lay)
    (disk : Bytes) (h h' : Handle) (hc : createHandle o agg xff lay = .ok (disk, h))
    (a0 : Arch) (ha0 : h.archs[0]? = some a0) (us : List Upd)
    (hts : ∀ u ∈ us, u.t < 2147483648 ∧ a0.step ≤ u.t)
    (hp : runUpds o h us = .ok h') :
    ∀ J : Nat, J < 2147483648 → a0.step ∣ (J : Int) → J ≠ 0 →
      ringValue h' a0 (slotAt h' a0 0).t J =
        histValue a0 (writesOf (eventsFor h 0 a0 us)) (fun _ => nanBits) J :=
  finest_reads_last_write o h h' a0 us (create_good o agg xff lay hl disk h hc) ha0
    (created_fresh o agg xff lay hl disk h hc a0 (List.mem_of_getElem? ha0)) hts hp

end Wsp.C01
