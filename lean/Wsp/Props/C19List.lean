/-
  C19, the retention-list clause.  A list string is its items joined by commas (`commaJoin`), and
  the splitting loop of ⟦ParseArchiveInfoList⟧ parses the items in turn (`loop_commaJoin`).  Hence:
  printing a valid archive list and parsing the text back yields the same list — steps, point
  counts and the offsets ⟦fillOffset⟧ assigns — for every list the validator accepts; and a list
  string with an empty item — a dangling comma, a leading comma, two commas in a row — is
  rejected, whatever stands around it.
-/
import Wsp.Props.C19
import Wsp.Props.C07
namespace Wsp.C19
open Wsp.C14

/-- a printed duration holds neither separator of the list syntax -/
theorem durationString_noSep (d : Int) (hd : 0 ≤ d) :
    ':' ∉ durationString d ∧ ',' ∉ durationString d ∧ durationString d ≠ [] := by
  obtain ⟨q, p, hp, hs, _⟩ := durationString_shape hd
  obtain ⟨_, _, _, h1, h2⟩ := printed_units p hp
  have key : ∀ c, isDigit c = false → p.2 ≠ c → c ∉ durationString d := by
    intro c hc hne hm
    rw [hs] at hm
    rcases List.mem_append.1 hm with hm | hm
    · rw [showNat_digits q c hm] at hc; cases hc
    · exact hne (List.mem_singleton.1 hm).symm
  exact ⟨key _ rfl h1, key _ rfl h2, by rw [hs]; simp⟩

/-- for a valid archive nothing wraps in ⟦ArchiveInfo.String⟧: step, colon, retention -/
theorem archString_eq {a : Arch} (ok : ArchOK a) :
    archString a = durationString a.step ++ ':' :: durationString (a.step * (a.n : Int)) ∧
      a.step ≤ 2147483647 ∧ (a.n : Int) ≤ 2147483647 ∧ 0 < a.step * (a.n : Int) := by
  have hnle := ok.n_le
  have hsle := ok.step_lt
  obtain ⟨hs, hn, hr⟩ := ok
  have hpos : 0 < a.step * (a.n : Int) := Int.mul_pos hs (by omega)
  unfold archString
  rw [i32_id (a.n : Int) (by omega) (by omega), i32_id _ (by omega) (by omega), List.append_assoc]
  exact ⟨rfl, by omega, hnle, hpos⟩

/-- one archive: `step:retention` parses back to (step, numberOfPoints) -/
theorem parse_print_arch (a : Arch) (ok : ArchOK a) : parseArchiveInfo (archString a) = some (a.step, a.n) := by
  obtain ⟨e, hsle, hnle, hpos⟩ := archString_eq ok
  obtain ⟨hs, hn, hr⟩ := ok
  have ns1 := durationString_noSep a.step (by omega)
  have ns2 := durationString_noSep (a.step * (a.n : Int)) (by omega)
  have hlen : ¬ (durationString (a.step * (a.n : Int))).length = 0 := fun h =>
    ns2.2.2 (List.eq_nil_of_length_eq_zero h)
  have hmod : Int.tmod (a.step * (a.n : Int)) a.step = 0 := by
    rw [Int.mul_comm]; exact Int.mul_tmod_left _ _
  have hdiv : Int.tdiv (a.step * (a.n : Int)) a.step = a.n := by
    rw [Int.mul_comm]; exact Int.mul_tdiv_cancel _ (by omega)
  have hc : ¬ (a.step ≤ 0 ∨ a.step * (a.n : Int) ≤ 0 ∨ Int.tmod (a.step * (a.n : Int)) a.step ≠ 0) := by
    rw [hmod]; omega
  unfold parseArchiveInfo
  rw [e, (splitAt1_eq_some_iff ':' _ _ _).2 ⟨rfl, ns1.1⟩]
  simp only [hlen, if_false]
  rw [parse_print_duration a.step (by omega) (by omega), parse_print_duration _ (by omega) (by omega)]
  simp only
  rw [if_neg hc, hdiv, u32_of_nat a.n (by omega)]

theorem archString_noComma {a : Arch} (ok : ArchOK a) : ',' ∉ archString a ∧ archString a ≠ [] := by
  obtain ⟨e, _, _, hpos⟩ := archString_eq ok
  have ns1 := durationString_noSep a.step (by have := ok.1; omega)
  have ns2 := durationString_noSep (a.step * (a.n : Int)) (by omega)
  rw [e]
  simp [ns1.2.1, ns2.2.1]

/-- the items of a list string, joined by commas (⟦strings.Join⟧) -/
def commaJoin : List Str → Str
  | [] => []
  | [a] => a
  | a :: as => a ++ ',' :: commaJoin as

theorem commaJoin_cons {a : Str} {as : List Str} (h : as ≠ []) : commaJoin (a :: as) = a ++ ',' :: commaJoin as := by
  cases as with
  | nil => exact absurd rfl h
  | cons b bs => rfl

theorem commaJoin_eq_nil {b : Str} {rest : List Str} (h : commaJoin (b :: rest) = []) : b = [] := by
  cases rest with
  | nil => exact h
  | cons c r => simp [commaJoin] at h

theorem parseArchiveInfo_nil : parseArchiveInfo [] = none := by
  simp [parseArchiveInfo, splitAt1]

theorem mapM_none_of_mem {α β} {f : α → Option β} {l : List α} (a : α) (ha : a ∈ l) (hf : f a = none) :
    l.mapM f = none := by
  induction l with
  | nil => simp at ha
  | cons b bs ih =>
    rw [List.mapM_cons]
    rcases List.mem_cons.1 ha with rfl | h
    · simp [hf]
    · cases f b <;> simp [ih h]

theorem parseArchiveInfosLoop_nil (fuel : Nat) : parseArchiveInfosLoop fuel [] = none := by
  cases fuel <;> rfl

theorem parseArchiveInfosLoop_cons {a rest : Str} (ha : ',' ∉ a) (fuel : Nat) :
    parseArchiveInfosLoop (fuel + 1) (a ++ ',' :: rest) =
      (parseArchiveInfo a).bind fun ai => (parseArchiveInfosLoop fuel rest).map (ai :: ·) := by
  simp only [parseArchiveInfosLoop, (splitAt1_eq_some_iff ',' _ a _).2 ⟨rfl, ha⟩]
  cases parseArchiveInfo a with
  | none => rfl
  | some ai =>
    cases rest with
    | nil => rw [parseArchiveInfosLoop_nil]; rfl
    | cons c r => rfl

/-- **the splitting loop, item by item**: on comma-free items joined by commas the loop parses each
    item in turn, and needs one unit of fuel per item -/
theorem loop_commaJoin {items : List Str} (hne : items ≠ []) (hfree : ∀ it ∈ items, ',' ∉ it) (fuel : Nat) :
    parseArchiveInfosLoop fuel (commaJoin items) = if items.length ≤ fuel then items.mapM parseArchiveInfo else none := by
  induction items generalizing fuel with
  | nil => exact absurd rfl hne
  | cons a rest ih =>
    obtain ⟨ha, hrest⟩ := List.forall_mem_cons.1 hfree
    cases fuel with
    | zero => simp [parseArchiveInfosLoop]
    | succ fuel =>
      cases rest with
      | nil =>
        simp only [commaJoin, parseArchiveInfosLoop, (splitAt1_eq_none_iff ',' a).2 ha]
        cases h : parseArchiveInfo a <;> simp [h]
      | cons b rest' =>
        rw [commaJoin_cons (by simp), parseArchiveInfosLoop_cons ha, ih (by simp) hrest, List.mapM_cons (a := a)]
        cases parseArchiveInfo a with
        | none => simp
        | some ai =>
          simp only [List.length_cons, Nat.add_le_add_iff_right]
          split
          · cases (b :: rest').mapM parseArchiveInfo <;> rfl
          · rfl

theorem length_le_commaJoin (items : List Str) : items.length ≤ (commaJoin items).length + 1 := by
  induction items with
  | nil => simp
  | cons a rest ih =>
    cases rest with
    | nil => simp
    | cons b r => simp only [commaJoin, List.length_append, List.length_cons] at ih ⊢; omega

theorem archsString_eq (as : List Arch) : archsString as = commaJoin (as.map archString) := by
  induction as with
  | nil => rfl
  | cons a rest ih =>
    cases rest with
    | nil => rfl
    | cons b r => simp only [archsString, List.map_cons, commaJoin, List.append_assoc, List.singleton_append] at ih ⊢; rw [ih]

theorem fillOffsetsFrom_wfFrom : ∀ (as : List Arch) (off : Nat), WFFrom off as → off + 12 * sumN as ≤ 4294967295 →
    fillOffsetsFrom off (as.map fun a => (⟨0, a.step, a.n⟩ : Arch)) = as := by
  intro as
  induction as with
  | nil => intro off _ _; rfl
  | cons a rest ih =>
    intro off h hfit
    obtain ⟨-, rfl, -, htail⟩ := (wfFrom_cons ..).1 h
    simp only [sumN] at hfit
    simp only [List.map_cons, fillOffsetsFrom, u32_add_mul12 a.offset a.n (by omega), ih _ htail (by omega)]

theorem fillOffsets_wf (as : List Arch) (wf : WellFormedArchs as) :
    fillOffsets (as.map fun a => (⟨0, a.step, a.n⟩ : Arch)) = as := by
  obtain ⟨_, hsz, hfrom⟩ := wf
  unfold fillOffsets
  rw [List.length_map, firstOffset_ideal _ (by omega)]
  exact fillOffsetsFrom_wfFrom as _ hfrom (by omega)

/-- **print then parse is the identity on valid retention lists** -/
theorem parse_print_list (as : List Arch) (hr : ∀ a ∈ as, ArchWF a) (hv : validateArchs as = true) :
    parseArchiveInfoList (archsString as) = some as := by
  have wf := (validateArchs_iff as hr).1 hv
  have hne := wf.1
  have hok : ∀ a ∈ as, ArchOK a := wfFrom_archOK wf.2.2
  have hitems : (as.map archString).mapM parseArchiveInfo = some (as.map fun a => (a.step, a.n)) := by
    clear hv hne wf hr
    induction as with
    | nil => rfl
    | cons a l ih =>
      rw [List.map_cons, List.mapM_cons, parse_print_arch a (hok a (by simp)), ih (fun x hx => hok x (by simp [hx]))]
      rfl
  have hfree : ∀ it ∈ as.map archString, ',' ∉ it :=
    List.forall_mem_map.2 fun a ha => (archString_noComma (hok a ha)).1
  have hlen := length_le_commaJoin (as.map archString)
  have h0 : ¬ (archsString as).length = 0 := by
    intro h
    obtain ⟨a0, rest, rfl⟩ := List.exists_cons_of_ne_nil hne
    rw [archsString_eq] at h
    exact (archString_noComma (hok a0 (by simp))).2 (commaJoin_eq_nil (List.eq_nil_of_length_eq_zero h))
  unfold parseArchiveInfoList
  rw [if_neg h0, archsString_eq, loop_commaJoin (by simpa using hne) hfree, if_pos (by simpa using hlen), hitems]
  simp only [List.map_map, Function.comp_def, fillOffsets_wf as wf, hv, if_true]

theorem splitAt1_spec (c : Char) : ∀ (s a b : Str), splitAt1 c s = some (a, b) → s = a ++ c :: b :=
  fun s a b h => ((splitAt1_eq_some_iff c s a b).1 h).1

theorem exists_items (s : Str) : ∃ items, items ≠ [] ∧ (∀ it ∈ items, ',' ∉ it) ∧ commaJoin items = s := by
  induction s with
  | nil => exact ⟨[[]], by simp, by simp, rfl⟩
  | cons x xs ih =>
    obtain ⟨items, hne, hfree, rfl⟩ := ih
    obtain ⟨i0, is, rfl⟩ := List.exists_cons_of_ne_nil hne
    obtain ⟨h0, hrest⟩ := List.forall_mem_cons.1 hfree
    by_cases hx : x = ','
    · exact ⟨[] :: i0 :: is, by simp, by simpa using hfree, by rw [hx]; rfl⟩
    · exact ⟨(x :: i0) :: is, by simp, List.forall_mem_cons.2 ⟨by simp [Ne.symm hx, h0], hrest⟩, by cases is <;> rfl⟩

theorem commaJoin_append {as bs : List Str} (ha : as ≠ []) (hb : bs ≠ []) :
    commaJoin (as ++ bs) = commaJoin as ++ ',' :: commaJoin bs := by
  induction as with
  | nil => exact absurd rfl ha
  | cons a as ih =>
    cases as with
    | nil => exact commaJoin_cons hb
    | cons a' as' =>
      rw [List.cons_append, commaJoin_cons (a := a) (by simp), ih (by simp), commaJoin_cons (as := a' :: as') (by simp),
        List.append_assoc, List.cons_append]

/-- **an empty item is rejected**, wherever it stands in the list -/
theorem rejects_empty_item (as bs : List Str) (ha : ∀ it ∈ as, ',' ∉ it) (hb : ∀ it ∈ bs, ',' ∉ it) :
    parseArchiveInfoList (commaJoin (as ++ [] :: bs)) = none := by
  have hfree : ∀ it ∈ as ++ [] :: bs, ',' ∉ it :=
    List.forall_mem_append.2 ⟨ha, List.forall_mem_cons.2 ⟨by simp, hb⟩⟩
  unfold parseArchiveInfoList
  rw [loop_commaJoin (by simp) hfree, mapM_none_of_mem [] (by simp) parseArchiveInfo_nil]
  simp

/-- **a retention list with a dangling comma is rejected** -/
theorem rejects_trailing_comma (s : Str) : parseArchiveInfoList (s ++ [',']) = none := by
  obtain ⟨items, hne, hfree, rfl⟩ := exists_items s
  have := rejects_empty_item items [] hfree (by simp)
  rwa [commaJoin_append hne (by simp)] at this

/-- the first item of a list is never empty: a leading comma is rejected -/
theorem rejects_leading_comma (s : Str) : parseArchiveInfoList (',' :: s) = none := by
  obtain ⟨items, hne, hfree, rfl⟩ := exists_items s
  have := rejects_empty_item [] items (by simp) hfree
  rwa [List.nil_append, commaJoin_cons hne] at this

/-- **two commas in a row are rejected**, wherever they stand -/
theorem rejects_double_comma (a b : Str) : parseArchiveInfoList (a ++ ',' :: ',' :: b) = none := by
  obtain ⟨ia, hna, hfa, rfl⟩ := exists_items a
  obtain ⟨ib, hnb, hfb, rfl⟩ := exists_items b
  have := rejects_empty_item ia ib hfa hfb
  rwa [commaJoin_append hna (by simp), commaJoin_cons hnb] at this

end Wsp.C19
