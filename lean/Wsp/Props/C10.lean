/-
  C10  sum is the slot-wise NaN-skipping sum of the matched files.

  `sumColumns` is ⟦sumTimeSeriesListForArchive⟧: per slot, the values of the files in file
  order combined with ⟦Value.Add⟧ (NaN-skipping).  Per slot the result is the left fold of
  `Add` over that slot's column; a single file sums to itself; a NaN in a column never
  changes that column's sum, and the sum is NaN only if every value of the column is —
  the latter under the stated hypothesis that float addition of two numbers is a number
  (`+Inf + −Inf` is the one exception: the code then restarts the sum; documented).
  Files with differing layouts are rejected — wherever the differing file stands in the list —
  and an item whose pattern matches no file is reported as not existing; the header reported
  is the first file's; `sum` over a single file prints exactly what `view` of it prints.
-/
import Wsp.Props.CmdBasics
namespace Wsp.C10
open Wsp.Cmd
variable {o : FOps}

/-- the column of slot `j` across the files, in file order -/
def column (cols : List (List Val)) (j : Nat) : List Val := cols.map fun c => c.getD j 0

theorem zipAdd_getD {a b : List Val} (hl : a.length = b.length) {j : Nat} (hj : j < a.length) :
    ((a.zip b).map fun (x, y) => o.vAdd x y).getD j 0 = o.vAdd (a.getD j 0) (b.getD j 0) := by
  have hz : (a.zip b)[j]? = some (a[j], b[j]'(hl ▸ hj)) :=
    List.getElem?_zip_eq_some.2 ⟨List.getElem?_eq_getElem hj, List.getElem?_eq_getElem (hl ▸ hj)⟩
  simp [List.getD, hj, hl ▸ hj, hz]

theorem sumColumns_length (o : FOps) (n : Nat) (cols : List (List Val)) (hne : cols ≠ [])
    (hc : ∀ c ∈ cols, c.length = n) : (sumColumns o cols).length = n := by
  cases cols with
  | nil => exact absurd rfl hne
  | cons first rest =>
    simp only [sumColumns]
    induction rest generalizing first with
    | nil => exact hc first (by simp)
    | cons c rest ih =>
      simp only [List.forall_mem_cons] at hc
      exact ih _ (by simp) (List.forall_mem_cons.2 ⟨by simp [List.length_zip, hc.1, hc.2.1], hc.2.2⟩)

/-- **slot-wise**: for files with the same number of slots, slot `j` of the sum is the left
    fold of NaN-skipping addition over the column of slot `j`, first file first -/
theorem slotwise (o : FOps) (first : List Val) (rest : List (List Val))
    (hlen : ∀ c ∈ rest, c.length = first.length) (j : Nat) (hj : j < first.length) :
    (sumColumns o (first :: rest)).getD j 0 =
      (column rest j).foldl o.vAdd (first.getD j 0) ∧
    (sumColumns o (first :: rest)).length = first.length := by
  refine ⟨?_, sumColumns_length o _ _ (by simp) (by simpa using hlen)⟩
  simp only [sumColumns]
  induction rest generalizing first with
  | nil => simp [column]
  | cons c cs ih =>
    have hc := hlen c (by simp)
    have hz : ((first.zip c).map fun (x, y) => o.vAdd x y).length = first.length := by simp [hc]
    simp only [List.foldl_cons, column, List.map_cons]
    rw [← zipAdd_getD hc.symm hj]
    exact ih _ (fun d hd => by rw [hz]; exact hlen d (by simp [hd])) (by rw [hz]; exact hj)

theorem single_is_identity (o : FOps) (vs : List Val) : sumColumns o [vs] = vs := rfl

/-- equality up to the NaN class (a NaN's payload is not a value) -/
def NaNEq (o : FOps) (a b : Val) : Prop := a = b ∨ (o.isNaN a = true ∧ o.isNaN b = true)

theorem NaNEq.refl (a : Val) : NaNEq o a a := Or.inl rfl

theorem NaNEq.trans {a b c : Val} (h1 : NaNEq o a b) (h2 : NaNEq o b c) : NaNEq o a c := by
  rcases h1 with rfl | ⟨n1, n2⟩
  · exact h2
  · rcases h2 with rfl | ⟨_, m2⟩
    · exact Or.inr ⟨n1, n2⟩
    · exact Or.inr ⟨n1, m2⟩

theorem add_hole (o : FOps) (v n : Val) (hn : o.isNaN n = true) : NaNEq o (o.vAdd v n) v := by
  unfold FOps.vAdd
  by_cases hv : o.isNaN v = true
  · simp only [hv, if_true]; exact Or.inr ⟨hn, hv⟩
  · simp only [hv, hn, if_true]; exact Or.inl rfl

theorem add_congr_left {a a' : Val} (b : Val) (h : NaNEq o a a') : NaNEq o (o.vAdd a b) (o.vAdd a' b) := by
  rcases h with rfl | ⟨h1, h2⟩
  · exact Or.inl rfl
  · unfold FOps.vAdd; simp only [h1, h2, if_true]; exact Or.inl rfl

theorem foldl_congr (col : List Val) {a a' : Val} (h : NaNEq o a a') :
    NaNEq o (col.foldl o.vAdd a) (col.foldl o.vAdd a') := by
  induction col generalizing a a' with
  | nil => exact h
  | cons c cs ih => exact ih (add_congr_left c h)

/-- **holes are irrelevant**: deleting the NaNs of a column does not change its sum -/
theorem holes_irrelevant (o : FOps) (col : List Val) (a : Val) :
    NaNEq o (col.foldl o.vAdd a) ((col.filter fun v => !o.isNaN v).foldl o.vAdd a) := by
  induction col generalizing a with
  | nil => exact NaNEq.refl a
  | cons c cs ih =>
    simp only [List.foldl_cons, List.filter_cons]
    cases hc : o.isNaN c
    · exact ih _
    · exact (foldl_congr cs (add_hole o a c hc)).trans (ih a)

/-- the sum of a column is NaN only if every file has a hole there — given that float
    addition of two numbers yields a number (`+Inf + −Inf` excluded) -/
theorem nan_iff_all_nan (o : FOps) (hadd : ∀ a b, o.isNaN a = false → o.isNaN b = false → o.isNaN (o.add a b) = false)
    (col : List Val) (a : Val) :
    o.isNaN (col.foldl o.vAdd a) = true ↔ (o.isNaN a = true ∧ ∀ v ∈ col, o.isNaN v = true) := by
  induction col generalizing a with
  | nil => simp
  | cons c cs ih =>
    simp only [List.foldl_cons, ih, List.forall_mem_cons, FOps.vAdd]
    cases ha : o.isNaN a <;> cases hc : o.isNaN c <;> simp [ha, hc, hadd a c]

theorem no_match_is_not_exist (o : FOps) (t : Tree) (w : Window) :
    sumFiles o t [] w = .error (.err .notExist) := by
  simp [sumFiles]

theorem readAll_length (o : FOps) (t : Tree) (w : Window) : ∀ (fs : List String) (rs : List (Header × List (Option Series))),
    sumFiles.readAll o t w fs = .ok rs → rs.length = fs.length := by
  intro fs rs h
  rw [readAll_eq o t w] at h
  exact (collect_ok_iff.1 h).1

theorem sum_header_is_first (o : FOps) (t : Tree) (f0 : String) (fs : List String) (w : Window) (h : Header)
    (l : List (Option Series)) (hs : sumFiles o t (f0 :: fs) w = .ok (h, l)) :
    ∃ l0, readFile o t f0 w.archiveID w.from_ w.until' w.now = .ok (h, l0) := by
  cases hr : sumFiles.readAll o t w (f0 :: fs) with
  | error e => simp [sumFiles, hr] at hs
  | ok rs =>
    cases rs with
    | nil => cases readAll_length o t w _ _ hr
    | cons x rest =>
      have hread := (collect_ok_iff.1 (readAll_eq o t w _ ▸ hr)).2 0 f0 x rfl rfl
      rw [sumFiles_of_readAll hr] at hs
      split at hs
      · cases hs
      · split at hs <;> cases hs
        exact ⟨_, hread⟩

/-- **a file whose layout differs from the first file's makes the sum an error**, wherever it
    stands in the list -/
theorem sum_layout_mismatch_is_error (o : FOps) (t : Tree) (f0 : String) (fs : List String) (w : Window)
    (rs : List (Header × List (Option Series))) (hr : sumFiles.readAll o t w (f0 :: fs) = .ok rs)
    (i : Nat) (r0 ri : Header × List (Option Series)) (h0 : rs[0]? = some r0) (hi : rs[i]? = some ri)
    (hne : layoutsEqual r0.1.archives ri.1.archives = false) :
    sumFiles o t (f0 :: fs) w = .error (.err .mismatch) := by
  cases rs with
  | nil => cases h0
  | cons x rest =>
    cases h0
    rw [sumFiles_of_readAll hr, if_pos]
    cases i with
    | zero => cases hi; rw [layoutsEqual_refl] at hne; cases hne
    | succ j =>
      simp only [Bool.not_eq_eq_eq_not, Bool.not_true, List.all_eq_false]
      exact ⟨ri, List.mem_of_getElem? (by simpa using hi), by simp [hne]⟩

/-- a read returns one series (or none) per archive of the header -/
theorem readFile_length (o : FOps) (t : Tree) (path : String) (id : Int) (f u now : Nat) (hd : Header)
    (l : List (Option Series)) (hr : readFile o t path id f u now = .ok (hd, l)) : l.length = hd.archives.length := by
  obtain ⟨b, h, _, _, rfl, hf⟩ := readFile_ok_iff.1 hr
  exact select_length (fetchList_eq h id f u now ▸ hf)

/-- the points printed for the sum of one list are the points of that list -/
theorem sumSeries_single_points (o : FOps) (l0 : List (Option Series)) :
    (sumSeries o l0.length [l0]).map seriesPoints = l0.map seriesPoints := by
  simp only [sumSeries, List.map_map]
  apply List.ext_getElem (by simp)
  intro i h1 h2
  have hi : i < l0.length := by simpa using h2
  simp only [List.getElem_map, List.getElem_range, Function.comp, List.map_cons, List.map_nil,
    List.getD_eq_getElem?_getD, List.getElem?_eq_getElem hi, Option.getD_some]
  cases l0[i] <;> rfl

theorem sum_single_is_view (o : FOps) (t : Tree) (f : String) (w : Window) :
    Cmd.sum o t [f] w = Cmd.view o t f w := by
  unfold Cmd.sum Cmd.view sumFiles
  simp only [List.isEmpty_cons, Bool.false_eq_true, if_false, sumFiles.readAll]
  cases hr : readFile o t f w.archiveID w.from_ w.until' w.now with
  | error e => rfl
  | ok r =>
    obtain ⟨hd, l⟩ := r
    simp only [List.all_nil, Bool.not_true, Bool.false_eq_true, if_false, List.map_cons, List.map_nil]
    have hlen := readFile_length o t f _ _ _ _ hd l hr
    rw [← hlen, sumSeries_single_points]

end Wsp.C10
