/-
  C18  view and view-raw show exactly what is stored.

  `recsOf` is ⟦PointsList.Print⟧: one record per point, archive by archive in archive
  order and, inside an archive, in the order of the list (time order for a fetch).
  `view` prints `recsOf` of the fetched series' points: every value a fetch reports
  appears, with its archive id and time (`view_complete`).  view-raw prints all N physical
  slots of each selected archive restricted to `(from, until]` (`from = 0`: unbounded
  below), optionally stably sorted by time.  Line formats are the source's
  (`FactsTie.line_formats`).  That every non-NaN view point inside the range appears in
  view-raw is `view_subset_raw` (Props/C01.lean, one archive of the ring) and, command to command,
  `view_subset_viewRaw` / `_one` / `_plain` (C18Cmd) for files satisfying the
  ring invariant and a window inside the clock zone; beyond that it is asserted on the real
  code on every run.
-/
import Wsp.Props.C03
import Wsp.Model.Cmd
import Wsp.Props.FactsTie
namespace Wsp.C18
open Wsp.Cmd Wsp.Handle

def recsOfArchive (i : Nat) (pts : List Point) : List Rec := pts.map fun p => ⟨i, p.t, p.v, none⟩

theorem recsOf_eq (pl : List (List Point)) : recsOf pl = (pl.zipIdx).flatMap fun (pts, i) => recsOfArchive i pts := rfl

/-- archive by archive, each archive's points in order: the output of `k+1` archives is the
    output of the first `k` followed by the records of the last -/
theorem recsOf_append (pl : List (List Point)) (pts : List Point) :
    recsOf (pl ++ [pts]) = recsOf pl ++ recsOfArchive pl.length pts := by
  simp [recsOf, recsOfArchive, List.zipIdx_append]

/-- exactly one record per point: as many lines as points -/
theorem recsOf_length_append (pl : List (List Point)) (pts : List Point) :
    (recsOf (pl ++ [pts])).length = (recsOf pl).length + pts.length := by
  rw [recsOf_append, List.length_append]; simp [recsOfArchive]

/-- **view is complete**: every point of every selected archive's series is printed with
    its archive id, time and value -/
theorem view_complete (pl : List (List Point)) (i : Nat) (pts : List Point) (p : Point)
    (hi : pl[i]? = some pts) (hp : p ∈ pts) : (⟨i, p.t, p.v, none⟩ : Rec) ∈ recsOf pl := by
  simp only [recsOf, List.mem_flatMap]
  refine ⟨(pts, i), ?_, ?_⟩
  · rw [List.mem_zipIdx_iff_getElem?]; simpa using hi
  · simp only [List.mem_map]; exact ⟨p, hp, rfl⟩

/-- **view is sound**: every printed record is a point of the series of the archive it names -/
theorem view_sound (pl : List (List Point)) (r : Rec) (hr : r ∈ recsOf pl) :
    ∃ pts p, pl[r.arch]? = some pts ∧ p ∈ pts ∧ r = ⟨r.arch, p.t, p.v, none⟩ := by
  simp only [recsOf, List.mem_flatMap, List.mem_map] at hr
  obtain ⟨⟨pts, i⟩, hmem, p, hp, rfl⟩ := hr
  rw [List.mem_zipIdx_iff_getElem?] at hmem
  exact ⟨pts, p, by simpa using hmem, hp, rfl⟩

theorem seriesPointsFrom_eq (from_ : Nat) (step : Int) (vs : List Val) (i : Nat) :
    seriesPointsFrom from_ step i vs =
      (List.range vs.length).map fun j => ⟨tsAdd from_ (i32 (((i + j : Nat) : Int) * step)), vs.getD j 0⟩ := by
  induction vs generalizing i with
  | nil => rfl
  | cons v vs ih =>
    -- the tail is the same list started at `i + 1`: shift its range by one
    simp only [seriesPointsFrom, ih, List.length_cons, List.range_succ_eq_map, List.map_cons, List.map_map,
      Function.comp_def, Nat.add_zero, List.getD_cons_zero, List.getD_cons_succ, Nat.add_right_comm i 1, Nat.add_assoc]

/-- the i-th value of a series is printed at `from + i·step` -/
theorem series_point_times (from_ : Nat) (step : Int) : ∀ (i : Nat) (vs : List Val) (j : Nat), j < vs.length →
    (seriesPointsFrom from_ step i vs)[j]? = some ⟨tsAdd from_ (i32 (((i + j : Nat) : Int) * step)), vs.getD j 0⟩ := by
  intro i vs j hj
  rw [seriesPointsFrom_eq, List.getElem?_map, List.getElem?_range hj]
  rfl

/-- **view-raw's range filter**: a physical slot is shown iff its time is in `(from, until]`
    (`from = 0`: no lower bound; `until = from`: one step further) -/
theorem raw_filter_iff (a : Arch) (from_ until_ : Nat) (ps : List Point) (p : Point) :
    p ∈ filterRaw a from_ until_ ps ↔
      p ∈ ps ∧ (from_ = 0 ∨ from_ < p.t) ∧ p.t ≤ (if until_ = from_ then tsAdd until_ a.step else until_) := by
  simp [filterRaw]

/-- view-raw's optional sort is a stable sort: a permutation, ordered by time, equal times
    in physical-slot order -/
theorem raw_sort_is_stable (ps : List Point) :
    (sortByTime ps).Perm ps ∧ SortedByT (sortByTime ps) ∧
    ∀ t, (sortByTime ps).filter (fun q => q.t = t) = ps.filter (fun q => q.t = t) :=
  ⟨sortByTime_perm ps, sortByTime_sorted ps, sortByTime_stable ps⟩

theorem line_formats : ("PointsList.Print", "archive:%d\tt:%s\tval:%s\n") ∈ Facts.printFormats :=
  FactsTie.line_formats.1

end Wsp.C18
