/-
  C02 / C01 for coarser archives: **locality**.

  `Local P h h'` : `h'` has the header of `h`, and every slot of every archive that differs
  between the two is stamped, in `h'`, with a time `T` such that `P m T`, `m` being the index
  of the slot's archive.  All locality theorems of C02 are instances: one aligned write is
  `Local (m = k ∧ T = I)`; sequences compose by `Local.trans` after widening by `Local.mono`.

  `chainTime` is the interval the chain of a single update consolidates at each level.  The
  level-by-level chain (`chainBatchSpec`, which ⟦propagateChain⟧ equals by
  `propagateChain_batch`) changes, in each archive at or behind the level it starts at, only
  slots that are afterwards stamped with the chain's interval of one of the times it was
  started with; every other slot of every archive is bit for bit what it was.  The chain of a
  single update is the case of a one-element list.
-/
import Wsp.Props.C02Batch
namespace Wsp.C02S
open Wsp.Handle Wsp.C14 Wsp.Total Wsp.C01 Wsp.Inv

def Local (P : Nat → Nat → Prop) (h h' : Handle) : Prop :=
  h'.hdr = h.hdr ∧
  ∀ (m : Nat) (b : Arch) (j : Nat), h.archs[m]? = some b → j < b.n →
    slotAt h' b j ≠ slotAt h b j → P m (slotAt h' b j).t

namespace Local
variable {P Q : Nat → Nat → Prop} {h h1 h' : Handle}

theorem refl : Local P h h :=
  ⟨rfl, fun _ _ _ _ _ hne => absurd rfl hne⟩

theorem mono (l : Local P h h') (hPQ : ∀ m T, P m T → Q m T) : Local Q h h' :=
  ⟨l.1, fun m b j hb hj hne => hPQ _ _ (l.2 m b j hb hj hne)⟩

theorem archs (l : Local P h h') : h'.archs = h.archs := congrArg Header.archives l.1

theorem good (l : Local P h h') (g : Good h) : Good h' := by
  have e := l.1
  exact ⟨⟨e ▸ g.1.valid, e ▸ g.1.range⟩, e ▸ g.2⟩

/-- a slot that differs over two steps differs over the second, or is as the first left it -/
theorem trans (l1 : Local P h h1) (l2 : Local P h1 h') : Local P h h' := by
  refine ⟨l2.1.trans l1.1, fun m b j hb hj hne => ?_⟩
  by_cases hc : slotAt h' b j = slotAt h1 b j
  · rw [hc] at hne ⊢; exact l1.2 m b j hb hj hne
  · exact l2.2 m b j (l1.archs ▸ hb) hj hc

/-- **one aligned write**: at most the slot it lands in differs, and that is in archive `k`,
    stamped `I` (the regions of the other archives are disjoint from `a`'s) -/
theorem write (g : Good h) {k : Nat} {a : Arch} (ha : h.archs[k]? = some a) {I : Nat} {v : Val}
    {off : Nat} (hI : I < 4294967296) (hg : h.getPointOffset I a = .ok off)
    (hput : h.putPointAt ⟨I, v⟩ off = .ok h') : Local (fun m T => m = k ∧ T = I) h h' := by
  have pa := g.placed a (List.mem_of_getElem? ha)
  obtain ⟨i, hi, rfl⟩ := getPointOffset_in_ring pa.npos pa.fit hg
  obtain ⟨hs, hfr, hh⟩ := putPointAt_slots h h' ⟨I, v⟩ hI a i hput
  refine ⟨hh, fun m b j hmb hj hne => ?_⟩
  by_cases hmk : m = k
  · subst hmk
    obtain rfl : a = b := Option.some.inj (ha.symm.trans hmb)
    obtain rfl : j = i := Decidable.byContradiction fun hji =>
      hne (hfr a j ((Nat.lt_or_gt_of_ne hji).imp slot_end_le slot_end_le))
    exact ⟨rfl, by rw [hs]⟩
  · exact absurd ((putPointAt_other g ha hmb hmk hI hi hput).2 j hj) hne

theorem propagateOne {o : FOps} (g : Good h) {k : Nat} {a aHigh : Arch} (ha : h.archs[k]? = some a)
    {t : Nat} {stored : Bool} (ht : t < 4294967296)
    (hp : propagateOne o h a aHigh t = .ok (h', stored)) : Local (fun m T => m = k ∧ T = t) h h' := by
  obtain ⟨_, _, h1, h2⟩ := Wsp.C02.propagateOne_spec o h h' a aHigh t stored hp
  cases stored with
  | false => rw [(h1 rfl).1]; exact refl
  | true =>
    obtain ⟨_, _, v, off, _, hg, hput⟩ := h2 rfl
    exact write g ha ht hg hput

end Local

/-- the interval the chain consolidates at level `m`, having started with `T` at level `k` -/
def chainTime (as : List Arch) (k : Nat) (T : Nat) : Nat → Nat → Nat
  | 0, _ => T
  | fuel+1, m =>
    if m ≤ k then T else
      match as[k + 1]? with
      | none => T
      | some l => chainTime as (k + 1) (l.intervalForWrite T) fuel m

theorem chainTime_self (as : List Arch) (k T fuel : Nat) : chainTime as k T fuel k = T := by
  cases fuel with
  | zero => rfl
  | succ f => simp [chainTime]

theorem chainTime_succ {as : List Arch} {k m : Nat} {l : Arch} (hkm : k < m) (hl : as[k + 1]? = some l)
    (T fuel : Nat) :
    chainTime as k T (fuel + 1) m = chainTime as (k + 1) (l.intervalForWrite T) fuel m := by
  simp only [chainTime, Nat.not_le.2 hkm, if_false, hl]

/-- non-vacuity of `chainTime`: 60 s / 300 s / 3600 s, the interval 7200 of level 1 seen from level 2 -/
example : chainTime [⟨0, 60, 10⟩, ⟨0, 300, 10⟩, ⟨0, 3600, 10⟩] 1 7200 3 2 = 7200 := by decide

theorem Local.levelSpec {o : FOps} {k : Nat} {a aHigh : Arch} {ts : List Nat} {h h' : Handle} {st : List Nat}
    (g : Good h) (ha : h.archs[k]? = some a) (hts : ∀ t ∈ ts, t < 4294967296)
    (hp : levelSpec o a aHigh h ts = .ok (h', st)) : Local (fun m T => m = k ∧ T ∈ ts) h h' := by
  induction ts generalizing h st with
  | nil => cases hp; exact Local.refl
  | cons t ts ih =>
    obtain ⟨h1, stored, st', hone, hrest, _⟩ := levelSpec_cons_ok hp
    have l1 := Local.propagateOne g ha (hts t List.mem_cons_self) hone
    have l2 := ih (l1.good g) (l1.archs ▸ ha) (fun x hx => hts x (List.mem_cons_of_mem _ hx)) hrest
    exact (l1.mono fun m T ⟨e, eT⟩ => ⟨e, eT ▸ List.mem_cons_self⟩).trans
      (l2.mono fun m T ⟨e, hT⟩ => ⟨e, List.mem_cons_of_mem _ hT⟩)

/-- one level: the slots it changes are slots of that level's archive stamped with one of
    the level's times; what it reports as stored is among those times -/
theorem levelSpec_local (o : FOps) (k : Nat) (a aHigh : Arch) :
    ∀ (ts : List Nat) (h h' : Handle) (st : List Nat), Good h → h.archs[k]? = some a →
      (∀ t ∈ ts, t < 4294967296) → levelSpec o a aHigh h ts = .ok (h', st) →
      h'.hdr = h.hdr ∧ (∀ x ∈ st, x ∈ ts) ∧
      ∀ (m : Nat) (b : Arch) (j : Nat), h.archs[m]? = some b → j < b.n →
        slotAt h' b j ≠ slotAt h b j → m = k ∧ (slotAt h' b j).t ∈ ts := by
  intro ts h h' st g ha hts hp
  obtain ⟨hh, hloc⟩ := Local.levelSpec g ha hts hp
  exact ⟨hh, fun _ hx => (levelSpec_stored_sublist hp).subset hx, hloc⟩

theorem Local.chainBatchSpec {o : FOps} {fuel : Nat} {h h' : Handle} {k : Nat} {ts : List Nat}
    (g : Good h) (hts : ∀ t ∈ ts, t < 4294967296) (hp : chainBatchSpec o fuel h k ts = .ok h') :
    Local (fun m T => k ≤ m ∧ ∃ t0 ∈ ts, T = chainTime h.archs k t0 fuel m) h h' := by
  induction fuel generalizing h k ts with
  | zero => cases hp; exact Local.refl
  | succ fuel ih =>
    simp only [C02S.chainBatchSpec] at hp
    split at hp
    · rename_i hcond
      split at hp
      · cases hp
      · rename_i h1 ts' hps
        -- level `k` stamps times of `ts`; the rest starts at `k + 1` with intervals of times of `ts`
        have hnext := next_level_only_stored o h h1 k ts ts' hps
        obtain ⟨a, aHigh, st, ha, _, hlev, _⟩ := propagateSpec_ok (List.length_pos_iff.1 hcond.2) hps
        have l1 := Local.levelSpec g ha hts hlev
        have l2 := ih (l1.good g)
          (fun x hx => by obtain ⟨l, y, _, _, rfl⟩ := hnext x hx; exact intervalForWrite_lt l y) hp
        refine (l1.mono fun m T ⟨e, hT⟩ => ⟨Nat.le_of_eq e.symm, T, hT, by rw [e, chainTime_self]⟩).trans
          (l2.mono fun m T ⟨hkm, t1, ht1, e⟩ => ?_)
        obtain ⟨l, y, hl, hy, rfl⟩ := hnext t1 ht1
        exact ⟨Nat.le_of_succ_le hkm, y, hy, by rw [e, l1.archs, chainTime_succ hkm hl]⟩
    · cases hp; exact Local.refl

theorem chainBatchSpec_local (o : FOps) (fuel : Nat) :
    ∀ (h h' : Handle) (k : Nat) (ts : List Nat), Good h → (∀ t ∈ ts, t < 4294967296) →
      chainBatchSpec o fuel h k ts = .ok h' →
      h'.hdr = h.hdr ∧
      ∀ (m : Nat) (b : Arch) (j : Nat), h.archs[m]? = some b → j < b.n →
        slotAt h' b j ≠ slotAt h b j →
        k ≤ m ∧ ∃ t0 ∈ ts, (slotAt h' b j).t = chainTime h.archs k t0 fuel m :=
  fun _ _ _ _ g hts hp => Local.chainBatchSpec g hts hp

theorem Local.propagateChain_batch {o : FOps} {h h' : Handle} {k : Nat} {aligned : List Point} (g : Good h)
    (hp : propagateChain o h k aligned = .ok h') :
    Local (fun m T => k + 1 ≤ m ∧ ∃ l, h.archs[k + 1]? = some l ∧ ∃ p ∈ aligned,
      T = chainTime h.archs (k + 1) (l.intervalForWrite p.t) h.archs.length m) h h' := by
  rw [C02S.propagateChain_batch] at hp
  split at hp
  · cases hp; exact Local.refl
  · rename_i l hl
    have hmem : ∀ t ∈ dedupAdj ((aligned.map (·.t)).map l.intervalForWrite),
        ∃ p ∈ aligned, t = l.intervalForWrite p.t := fun x hx => by
      simpa [mem_dedupAdj, eq_comm] using hx
    have l1 := Local.chainBatchSpec g
      (fun x hx => by obtain ⟨p, _, rfl⟩ := hmem x hx; exact intervalForWrite_lt l p.t) hp
    exact l1.mono fun m T ⟨hkm, t0, ht0, e⟩ => by
      obtain ⟨p, hp', rfl⟩ := hmem t0 ht0
      exact ⟨hkm, l, hl, p, hp', e⟩

/-- **locality of ⟦propagateChain⟧ for a batch**: whatever the file held, the propagation
    that follows the write of a batch to archive `k` changes only slots of archives behind
    `k`, each afterwards stamped with the chain's interval, at its level, of the time of one
    of the written points -/
theorem propagateChain_batch_local (o : FOps) (h h' : Handle) (k : Nat) (aligned : List Point) (g : Good h)
    (hp : propagateChain o h k aligned = .ok h') :
    h'.hdr = h.hdr ∧
    ∀ (m : Nat) (b : Arch) (j : Nat), h.archs[m]? = some b → j < b.n →
      slotAt h' b j ≠ slotAt h b j →
      k + 1 ≤ m ∧ ∃ l, h.archs[k + 1]? = some l ∧ ∃ p ∈ aligned,
        (slotAt h' b j).t = chainTime h.archs (k + 1) (l.intervalForWrite p.t) h.archs.length m :=
  Local.propagateChain_batch g hp

/-- **locality**: after the chain of a single update, a slot that differs from what it was
    lies in an archive at or behind the starting level and is stamped with that level's
    interval of the chain -/
theorem chainSpec_local (o : FOps) (fuel : Nat) :
    ∀ (h h' : Handle) (k T : Nat), Good h → T < 4294967296 →
      chainSpec o fuel h k T = .ok h' →
      h'.hdr = h.hdr ∧
      ∀ (m : Nat) (b : Arch) (j : Nat), h.archs[m]? = some b → j < b.n →
        slotAt h' b j ≠ slotAt h b j →
        k ≤ m ∧ (slotAt h' b j).t = chainTime h.archs k T fuel m := by
  intro h h' k T g hT hp
  rw [← chainLoop_single, chainLoop_batch] at hp
  show Local (fun m S => k ≤ m ∧ S = chainTime h.archs k T fuel m) h h'
  have l1 := Local.chainBatchSpec g (by simpa using hT) hp
  exact l1.mono fun m S ⟨hkm, t0, ht0, e⟩ => ⟨hkm, by rwa [List.mem_singleton.1 ht0] at e⟩

theorem Local.propagateChain_single {o : FOps} {h h' : Handle} {k : Nat} {p : Point} (g : Good h)
    (hp : propagateChain o h k [p] = .ok h') :
    Local (fun m T => k + 1 ≤ m ∧ ∃ l, h.archs[k + 1]? = some l ∧
      T = chainTime h.archs (k + 1) (l.intervalForWrite p.t) h.archs.length m) h h' :=
  (Local.propagateChain_batch g hp).mono fun m T ⟨hkm, l, hl, q, hq, e⟩ =>
    ⟨hkm, l, hl, by rwa [List.mem_singleton.1 hq] at e⟩

/-- **locality of ⟦propagateChain⟧ for one written point**: whatever the file held, the
    propagation that follows a single write changes only slots of archives behind the
    written one, each stamped afterwards with the interval of its level that contains the
    written time -/
theorem propagateChain_single_local (o : FOps) (h h' : Handle) (k : Nat) (p : Point) (g : Good h)
    (hp : propagateChain o h k [p] = .ok h') :
    h'.hdr = h.hdr ∧
    ∀ (m : Nat) (b : Arch) (j : Nat), h.archs[m]? = some b → j < b.n →
      slotAt h' b j ≠ slotAt h b j →
      k + 1 ≤ m ∧ ∃ l, h.archs[k + 1]? = some l ∧
        (slotAt h' b j).t = chainTime h.archs (k + 1) (l.intervalForWrite p.t) h.archs.length m :=
  Local.propagateChain_single g hp

end Wsp.C02S
