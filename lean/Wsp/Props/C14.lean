/-
  C14  Binary codec: encode/decode round-trips and frames exactly.

  Every wire type: `decode (encode x ++ rest) = ok (x, rest)` for arbitrary trailing
  bytes (so concatenated messages decode in sequence), and every proper prefix of an
  encoding makes the decoder ask for a larger buffer, naming a size larger than what
  it was given and no larger than the complete message.
  Values are raw 64-bit patterns, so NaN payloads, infinities and signed zeros are
  covered exactly.  Well-formedness hypotheses are the Go types' ranges plus, for
  series, what `C04.fetch_result_wf` shows of every fetch result.

  The header also the other way round: what ⟦Header.TakeFrom⟧ accepts is exactly the encoding
  of what it returns, and that is well-formed (`decHeader_ok_iff`), so decoding is injective on
  the bytes it consumes.  What follows for `Open` — whatever it returns reopens as itself — is
  `readHeader_inv` (Proofs/OpenLemmas) and `opened_reopenable` (Props/Reopen).
-/
import Wsp.Proofs.CodecLemmas
namespace Wsp.C14

theorem roundtrip_timestamp (t : Nat) (h : t < 4294967296) (rest : Bytes) :
    decTimestamp (encTimestamp t ++ rest) = .ok (t, rest) := by
  simp [decTimestamp, encTimestamp, de32_be32_append t h]

theorem roundtrip_duration (d : Int) (h1 : -2147483648 ≤ d) (h2 : d < 2147483648) (rest : Bytes) :
    decDuration (encDuration d ++ rest) = .ok (d, rest) := by
  simp [decDuration, encDuration, de32_be32_append _ (u32_lt d), i32_u32 d h1 h2]

/-- every float64 bit pattern, NaN payloads included -/
theorem roundtrip_value (v : Val) (rest : Bytes) :
    decValue (encValue v ++ rest) = .ok (v, rest) := by
  simp [decValue, encValue, de64_be64_append]

theorem roundtrip_point (p : Point) (h : p.t < 4294967296) (rest : Bytes) :
    decPoint (encPoint p ++ rest) = .ok (p, rest) := by
  unfold decPoint
  have hl : ¬ (encPoint p ++ rest).length < 12 := by simp
  simp only [hl, if_false]
  simp only [encPoint, encTimestamp, encValue, List.append_assoc,
    de32_be32_append _ h, drop_be32_append, drop_be64_append, de64_be64_append, List.drop_zero]

theorem decPointsBody_enc (ps : List Point) (h : ∀ p ∈ ps, p.t < 4294967296) (rest : Bytes) :
    decPointsBody ps.length (encPointsBody ps ++ rest) = .ok (ps, rest) := by
  induction ps with
  | nil => simp [decPointsBody, encPointsBody]
  | cons p ps ih =>
    simp [decPointsBody, encPointsBody, List.append_assoc, roundtrip_point p (h p (by simp)),
      ih fun q hq => h q (by simp [hq])]

theorem encPoints_length (ps : List Point) : (encPoints ps).length = 8 + 12 * ps.length := by
  simp [encPoints]

theorem roundtrip_points (ps : List Point) (h : ∀ p ∈ ps, p.t < 4294967296)
    (hl : ps.length ≤ maxPointCount) (rest : Bytes) :
    decPoints (encPoints ps ++ rest) = .ok (ps, rest) := by
  have hc : de64Nat (encPoints ps ++ rest) = ps.length := by
    rw [encPoints, List.append_assoc]
    exact de64Nat_be64Nat_append _ (by unfold maxPointCount at hl; omega) _
  have hL : 8 + ps.length * 12 ≤ (encPoints ps ++ rest).length := by
    rw [List.length_append, encPoints_length, Nat.mul_comm]; exact Nat.le_add_right ..
  have := decPoints_cases (encPoints ps ++ rest)
  rw [hc] at this
  rcases this with ⟨h8, -⟩ | ⟨-, h1, -⟩ | ⟨-, -, h2, -⟩ | ⟨-, -, -, e, -⟩
  · exact absurd (Nat.le_trans (Nat.le_add_right ..) hL) (Nat.not_le.2 h8)
  · exact absurd hl (Nat.not_le.2 h1)
  · exact absurd hL (Nat.not_le.2 h2)
  · rw [e, encPoints, List.append_assoc, List.drop_left' (be64Nat_length _)]
    exact decPointsBody_enc ps h rest

theorem decValues_enc (vs : List Val) (rest : Bytes) :
    decValues vs.length (encValues vs ++ rest) = .ok (vs, rest) := by
  induction vs with
  | nil => simp [decValues, encValues]
  | cons v vs ih =>
    simp [decValues, encValues, List.append_assoc, roundtrip_value, ih]

theorem roundtrip_series (s : Series) (wf : SeriesWF s) (rest : Bytes) :
    decSeries (encSeries (some s) ++ rest) = .ok (s, rest) := by
  have hsp := wf.step_pos
  have hl : ¬ (encSeries (some s) ++ rest).length < 12 := by
    rw [List.length_append, encSeries_length, Nat.add_assoc]; exact Nat.not_lt.2 (Nat.le_add_right ..)
  have h3 : ¬ (encValues s.values ++ rest).length < s.values.length * 8 := by
    rw [List.length_append, encValues_length, Nat.mul_comm]; exact Nat.not_lt.2 (Nat.le_add_right ..)
  unfold decSeries
  dsimp only
  rw [if_neg hl]
  simp only [encSeries, encTimestamp, encDuration, List.append_assoc, de32_be32_append _ wf.f_lt,
    drop_be32_append, List.drop_zero, de32_be32_append _ wf.u_lt, de32_be32_append _ (u32_lt s.step),
    i32_u32 s.step (by omega) wf.step_lt]
  rw [← wf.len, if_neg fun h => Int.ne_of_gt hsp h.1, if_neg (Int.not_le.2 hsp), if_neg (Nat.not_lt.2 wf.le),
    if_neg h3, decValues_enc]

/-- the absent (nil) series has a wire form and decodes to the empty series -/
theorem roundtrip_absent_series (rest : Bytes) :
    decSeries (encSeries none ++ rest) = .ok (⟨0, 0, 0, []⟩, rest) := by
  have hl : ¬ (encSeries none ++ rest).length < 12 := by
    simp [encSeries, encTimestamp, encDuration]; omega
  unfold decSeries
  simp only [hl, if_false]
  have e0 : u32 0 = 0 := by decide
  simp only [encSeries, encTimestamp, encDuration, List.append_assoc, e0,
    de32_be32_append 0 (by omega), drop_be32_append, List.drop_zero]
  simp [i32]

structure ArchWF (a : Arch) : Prop where
  off : a.offset < 4294967296
  s1 : -2147483648 ≤ a.step
  s2 : a.step < 2147483648
  n : a.n < 4294967296

theorem roundtrip_arch (a : Arch) (wf : ArchWF a) (rest : Bytes) :
    decArch (encArch a ++ rest) = .ok (a, rest) := by
  obtain ⟨ho, h1, h2, hn⟩ := wf
  unfold decArch
  have hl : ¬ (encArch a ++ rest).length < 12 := by simp [encArch, encDuration]; omega
  simp only [hl, if_false]
  simp only [encArch, encDuration, List.append_assoc, de32_be32_append _ ho, drop_be32_append, List.drop_zero,
    de32_be32_append _ (u32_lt a.step), de32_be32_append _ hn, i32_u32 a.step h1 h2]

theorem encArchs_length (as : List Arch) : (encArchs as).length = 12 * as.length := by
  induction as with
  | nil => simp [encArchs]
  | cons a as ih => simp [encArchs, encArch, encDuration, ih]; omega

theorem roundtrip_archs (as : List Arch) (wf : ∀ a ∈ as, ArchWF a) (rest : Bytes) :
    decArchs as.length (encArchs as ++ rest) = .ok (as, rest) := by
  induction as with
  | nil => simp [decArchs, encArchs]
  | cons a as ih =>
    simp [decArchs, encArchs, List.append_assoc, roundtrip_arch a (wf a (by simp)),
      ih fun b hb => wf b (by simp [hb])]

theorem decArch_inv {src : Bytes} {a : Arch} {rest : Bytes} (h : decArch src = .ok (a, rest)) :
    src = encArch a ++ rest ∧ ArchWF a := by
  rw [decArch_fixed, fixedDec_ok_iff] at h
  obtain ⟨hl, rfl, rfl⟩ := h
  refine ⟨?_, de32_lt _, (i32_range _).1, (i32_range _).2, de32_lt _⟩
  simp only [encArch, encDuration, List.append_assoc, u32_i32 _ (de32_lt _)]
  rw [be32_de32_drop src 8 12 rfl hl, be32_de32_drop src 4 8 rfl (by omega), be32_de32_append src (by omega)]

theorem decArchs_spec {n : Nat} {src : Bytes} {as : List Arch} {rest : Bytes} (h : decArchs n src = .ok (as, rest)) :
    src = encArchs as ++ rest ∧ as.length = n ∧ ∀ a ∈ as, ArchWF a := by
  induction n generalizing src as with
  | zero =>
    cases h
    simp [encArchs]
  | succ n ih =>
    rw [decArchs] at h
    repeat' split at h
    any_goals cases h
    rename_i h1 _ _ h2
    obtain ⟨e, hl, hw⟩ := ih h2
    obtain ⟨e0, w0⟩ := decArch_inv h1
    exact ⟨by rw [e0, e, encArchs, List.append_assoc], by simp [hl], by simpa using ⟨w0, hw⟩⟩

theorem decArchs_inv : ∀ (n : Nat) (src : Bytes) (as : List Arch) (rest : Bytes),
    decArchs n src = .ok (as, rest) → src = encArchs as ++ rest ∧ as.length = n :=
  fun _ _ _ _ h => ⟨(decArchs_spec h).1, (decArchs_spec h).2.1⟩

/-- what `NewHeader`, `Header.TakeFrom` and `Open` produce (`Total.newHeader_wf`, `decHeader_inv`,
    `readHeader_inv`) -/
structure HeaderWF (o : FOps) (h : Header) : Prop where
  agg : validAgg h.agg = true
  xff : o.xffValid h.xff = true
  mr1 : -2147483648 ≤ h.maxRet
  mr2 : h.maxRet < 2147483648
  count : h.count = h.archives.length
  count_lt : h.count < 4294967296
  archs : ∀ a ∈ h.archives, ArchWF a
  valid : validateArchs h.archives = true

theorem encHeader_length (h : Header) : (encHeader h).length = 16 + 12 * h.archives.length := by
  simp [encHeader, encDuration, encArchs_length]; omega

/-- the sixteen bytes of meta-data survive a cut after `k ≥ 16` bytes -/
theorem encHeader_reads (h : Header) (ha : h.agg < 4294967296) (hc : h.count < 4294967296) (rest : Bytes)
    {k : Nat} (hk : 16 ≤ k) :
    de32 ((encHeader h ++ rest).take k) = h.agg ∧ de32 (((encHeader h ++ rest).take k).drop 4) = u32 h.maxRet ∧
    de32 (((encHeader h ++ rest).take k).drop 8) = h.xff.toNat ∧
    de32 (((encHeader h ++ rest).take k).drop 12) = h.count ∧
    ((encHeader h ++ rest).take k).drop 16 = (encArchs h.archives ++ rest).take (k - 16) := by
  rw [de32_take (by omega), de32_drop_take (by omega), de32_drop_take (by omega), de32_drop_take (by omega),
    List.drop_take]
  simp only [encHeader, encDuration, List.append_assoc, drop_be32_append, List.drop_zero, u32_of_nat _ ha,
    de32_be32_append _ ha, de32_be32_append _ (u32_lt _), de32_be32_append _ h.xff.toNat_lt, de32_be32_append _ hc,
    and_self]

theorem HeaderWF.ne_nil {o : FOps} {h : Header} (wf : HeaderWF o h) : h.archives ≠ [] := by
  intro e; have := wf.valid; rw [e] at this; simp [validateArchs] at this

/-- sixteen bytes hold no archive -/
theorem HeaderWF.sixteen_lt {o : FOps} {h : Header} (wf : HeaderWF o h) : 16 < 16 + 12 * h.archives.length :=
  Nat.lt_add_of_pos_right (Nat.mul_pos (by decide) (List.length_pos_iff.2 wf.ne_nil))

/-- ⟦Header.TakeFrom⟧ on an encoded header followed by anything, cut after `k ≥ 16` bytes: it asks for
    the whole header while that is cut short, and decodes it otherwise -/
theorem decHeader_enc_take {o : FOps} {h : Header} (wf : HeaderWF o h) (rest : Bytes) (k : Nat) (h16 : 16 ≤ k) :
    decHeader o ((encHeader h ++ rest).take k) =
      if k < 16 + 12 * h.archives.length then .error (.wantLarger ((16 + 12 * h.archives.length : Nat) : Int))
      else .ok (h, rest.take (k - (16 + 12 * h.archives.length))) := by
  have hT : 16 + 12 * h.archives.length ≤ (encHeader h ++ rest).length := by
    rw [List.length_append, encHeader_length]; exact Nat.le_add_right ..
  have hlt := length_take_lt_iff (k := k) hT
  have hagg : h.agg < 4294967296 := by have := wf.agg; simp [validAgg] at this; omega
  obtain ⟨r0, r4, r8, r12, r16⟩ := encHeader_reads h hagg wf.count_lt rest h16
  have hN : headerLen ((encHeader h ++ rest).take k) = 16 + 12 * h.archives.length := by
    rw [headerLen, r12, wf.count, Nat.mul_comm]
  have hm : metaOK o ((encHeader h ++ rest).take k) = true := by
    rw [metaOK, r0, r8, UInt32.ofNat_toNat, wf.agg, wf.xff]; rfl
  -- the cut input passes the first two stages and names the length of the whole header; cut later than that,
  -- every field it reads is the field that was encoded
  rcases decHeader_cases o ((encHeader h ++ rest).take k) with ⟨hl, _⟩ | ⟨_, hb, _⟩ | ⟨_, _, hl, e⟩ | ⟨_, _, hl, as, r, hd, e⟩
  · exact absurd ((length_take_lt_iff (Nat.le_trans (Nat.le_add_right ..) hT)).1 hl) (Nat.not_lt.2 h16)
  · rw [hm] at hb; cases hb
  · rw [hN] at hl e
    rw [e, if_pos (hlt.1 hl)]
  · rw [hN] at hl
    have hk : ¬ k < 16 + 12 * h.archives.length := mt hlt.2 (Nat.not_lt.2 hl)
    rw [r12, r16, List.take_append,
      List.take_of_length_le (by rw [encArchs_length]; exact Nat.le_sub_of_add_le' (Nat.not_lt.1 hk)), wf.count,
      roundtrip_archs _ wf.archs] at hd
    simp only [Except.ok.injEq, Prod.mk.injEq] at hd
    obtain ⟨rfl, rfl⟩ := hd
    rw [e, if_neg hk, r0, r4, r8, r12, if_pos wf.valid, i32_u32 _ wf.mr1 wf.mr2, encArchs_length, Nat.sub_sub,
      UInt32.ofNat_toNat]

/-- **⟦Header.TakeFrom⟧ accepts exactly the encodings of well-formed headers**, and hands back
    what follows them -/
theorem decHeader_ok_iff {o : FOps} {src : Bytes} {h : Header} {rest : Bytes} :
    decHeader o src = .ok (h, rest) ↔ src = encHeader h ++ rest ∧ HeaderWF o h := by
  constructor
  · intro hok
    rcases decHeader_cases o src with ⟨_, e⟩ | ⟨_, _, e⟩ | ⟨_, _, _, e⟩ | ⟨h16, hm, _, as, r, hd, e⟩
    iterate 3 rw [e] at hok; cases hok
    rw [e] at hok
    split at hok
    · rename_i hv
      simp only [Except.ok.injEq, Prod.mk.injEq] at hok
      obtain ⟨rfl, rfl⟩ := hok
      obtain ⟨es, hl, hw⟩ := decArchs_spec hd
      simp only [metaOK, Bool.and_eq_true] at hm
      refine ⟨?_, hm.1, hm.2, (i32_range _).1, (i32_range _).2, hl.symm, de32_lt _, hw, hv⟩
      have hx : (UInt32.ofNat (de32 (src.drop 8))).toNat = de32 (src.drop 8) := by
        have := de32_lt (src.drop 8); simp; omega
      simp only [encHeader, encDuration, List.append_assoc, hx, u32_i32 _ (de32_lt _), u32_of_nat _ (de32_lt _)]
      rw [← es, be32_de32_drop src 12 16 rfl h16, be32_de32_drop src 8 12 rfl (by omega),
        be32_de32_drop src 4 8 rfl (by omega), be32_de32_append src (by omega)]
    · cases hok
  · rintro ⟨rfl, wf⟩
    have := decHeader_enc_take wf rest (16 + 12 * h.archives.length + rest.length)
      (Nat.le_trans (Nat.le_add_right ..) (Nat.le_add_right ..))
    rwa [List.take_of_length_le (Nat.le_of_eq (by rw [List.length_append, encHeader_length])),
      if_neg (Nat.not_lt.2 (Nat.le_add_right ..)), Nat.add_sub_cancel_left, List.take_length] at this

theorem roundtrip_header (o : FOps) (h : Header) (wf : HeaderWF o h) (rest : Bytes) :
    decHeader o (encHeader h ++ rest) = .ok (h, rest) := decHeader_ok_iff.2 ⟨rfl, wf⟩

/-- **⟦Header.TakeFrom⟧ accepts only encodings**: the bytes it consumed are the encoding of
    the header it returned, and that header is well-formed -/
theorem decHeader_inv (o : FOps) (src : Bytes) (h : Header) (rest : Bytes)
    (hok : decHeader o src = .ok (h, rest)) : src = encHeader h ++ rest ∧ HeaderWF o h :=
  decHeader_ok_iff.1 hok

/-- a series followed by a point list: the first decoder returns the second message
    untouched as its remainder, and that remainder decodes to the second object. -/
theorem sequence_series_points (s : Series) (wf : SeriesWF s) (ps : List Point)
    (h : ∀ p ∈ ps, p.t < 4294967296) (hl : ps.length ≤ maxPointCount) (rest : Bytes) :
    decSeries (encSeries (some s) ++ (encPoints ps ++ rest)) = .ok (s, encPoints ps ++ rest) ∧
    decPoints (encPoints ps ++ rest) = .ok (ps, rest) :=
  ⟨roundtrip_series s wf _, roundtrip_points ps h hl rest⟩

/-- a header followed by a series (the `/view` response) decodes in order -/
theorem sequence_header_series (o : FOps) (h : Header) (wf : HeaderWF o h) (s : Series) (swf : SeriesWF s)
    (rest : Bytes) :
    decHeader o (encHeader h ++ (encSeries (some s) ++ rest)) = .ok (h, encSeries (some s) ++ rest) ∧
    decSeries (encSeries (some s) ++ rest) = .ok (s, rest) :=
  ⟨roundtrip_header o h wf _, roundtrip_series s swf rest⟩

def WantsMore {α} (r : R α) (given full : Nat) : Prop :=
  ∃ n : Nat, r = .error (.wantLarger (n : Int)) ∧ given < n ∧ n ≤ full

theorem fixedDec_prefix {α} (n : Nat) (f : Bytes → α) (e : Bytes) (he : e.length = n) (k : Nat) (hk : k < e.length) :
    WantsMore (fixedDec n f (e.take k)) k e.length :=
  ⟨n, by simp [fixedDec]; omega, by omega, by omega⟩

theorem prefix_timestamp (t : Nat) (k : Nat) (hk : k < (encTimestamp t).length) :
    WantsMore (decTimestamp ((encTimestamp t).take k)) k (encTimestamp t).length :=
  decTimestamp_fixed ▸ fixedDec_prefix 4 _ _ (by simp [encTimestamp]) k hk

theorem prefix_duration (d : Int) (k : Nat) (hk : k < (encDuration d).length) :
    WantsMore (decDuration ((encDuration d).take k)) k (encDuration d).length :=
  decDuration_fixed ▸ fixedDec_prefix 4 _ _ (by simp [encDuration]) k hk

theorem prefix_value (v : Val) (k : Nat) (hk : k < (encValue v).length) :
    WantsMore (decValue ((encValue v).take k)) k (encValue v).length :=
  decValue_fixed ▸ fixedDec_prefix 8 _ _ (by simp [encValue]) k hk

theorem prefix_point (p : Point) (k : Nat) (hk : k < (encPoint p).length) :
    WantsMore (decPoint ((encPoint p).take k)) k (encPoint p).length :=
  decPoint_fixed ▸ fixedDec_prefix 12 _ _ (by simp) k hk

theorem prefix_series (s : Series) (wf : SeriesWF s) (k : Nat) (hk : k < (encSeries (some s)).length) :
    WantsMore (decSeries ((encSeries (some s)).take k)) k (encSeries (some s)).length := by
  have hcut : ((encSeries (some s)).take k).length = k := List.length_take_of_le (Nat.le_of_lt hk)
  rw [encSeries_length, Nat.mul_comm 8] at hk ⊢
  by_cases h12 : k < 12
  · refine ⟨12, ?_, h12, Nat.le_add_right ..⟩
    rw [decSeries, hcut, if_pos h12]
    rfl
  · refine ⟨12 + s.values.length * 8, ?_, hk, Nat.le_refl _⟩
    have er : de32 ((encSeries (some s)).take k) = s.from_ ∧ de32 (((encSeries (some s)).take k).drop 4) = s.until_ ∧
        de32 (((encSeries (some s)).take k).drop 8) = u32 s.step := by
      rw [de32_take (by omega), de32_drop_take (by omega), de32_drop_take (by omega)]
      simp only [encSeries, encTimestamp, encDuration, List.append_assoc, de32_be32_append _ wf.f_lt,
        drop_be32_append, List.drop_zero, de32_be32_append _ wf.u_lt, de32_be32_append _ (u32_lt s.step), and_self]
    have hsp := wf.step_pos
    unfold decSeries
    dsimp only
    rw [List.length_drop, hcut, if_neg h12, er.1, er.2.1, er.2.2, i32_u32 s.step (by omega) wf.step_lt, ← wf.len,
      if_neg fun h => Int.ne_of_gt hsp h.1, if_neg (Int.not_le.2 hsp), if_neg (Nat.not_lt.2 wf.le),
      if_pos (Nat.sub_lt_left_of_lt_add (Nat.le_of_not_lt h12) hk)]
    simp

theorem prefix_absent_series (k : Nat) (hk : k < (encSeries none).length) :
    WantsMore (decSeries ((encSeries none).take k)) k (encSeries none).length := by
  have hcut : ((encSeries none).take k).length = k := List.length_take_of_le (Nat.le_of_lt hk)
  have : (encSeries none).length = 12 := rfl
  rw [this] at hk ⊢
  refine ⟨12, ?_, hk, Nat.le_refl _⟩
  rw [decSeries, hcut, if_pos hk]
  rfl

theorem prefix_points (ps : List Point) (hl : ps.length ≤ maxPointCount) (k : Nat)
    (hk : k < (encPoints ps).length) :
    WantsMore (decPoints ((encPoints ps).take k)) k (encPoints ps).length := by
  have hcut : ((encPoints ps).take k).length = k := List.length_take_of_le (Nat.le_of_lt hk)
  have hc (h8 : 8 ≤ k) : de64Nat ((encPoints ps).take k) = ps.length := by
    rw [de64Nat, de32_take (by omega), de32_drop_take (by omega), ← de64Nat, encPoints]
    exact de64Nat_be64Nat_append _ (by unfold maxPointCount at hl; omega) _
  rw [encPoints_length, Nat.mul_comm 12] at hk ⊢
  have := decPoints_cases ((encPoints ps).take k)
  rw [hcut] at this
  rcases this with ⟨h8, e, -⟩ | ⟨h8, h1, -⟩ | ⟨h8, -, h2, e, -⟩ | ⟨h8, -, h2, -⟩
  · exact ⟨8, e, h8, Nat.le_add_right ..⟩
  · rw [hc h8] at h1
    exact absurd hl (Nat.not_le.2 h1)
  · rw [hc h8] at h2 e
    exact ⟨_, e, h2, Nat.le_refl _⟩
  · rw [hc h8] at h2
    exact absurd hk (Nat.not_lt.2 h2)

theorem prefix_header (o : FOps) (h : Header) (wf : HeaderWF o h) (k : Nat)
    (hk : k < (encHeader h).length) :
    WantsMore (decHeader o ((encHeader h).take k)) k (encHeader h).length := by
  have hcut : ((encHeader h).take k).length = k := List.length_take_of_le (Nat.le_of_lt hk)
  rw [encHeader_length] at hk ⊢
  by_cases h16 : k < 16
  · refine ⟨16, ?_, h16, Nat.le_add_right ..⟩
    rw [decHeader, hcut, if_pos h16]
    rfl
  · have := decHeader_enc_take wf [] k (Nat.le_of_not_lt h16)
    rw [List.append_nil, if_pos hk] at this
    exact ⟨_, this, hk, Nat.le_refl _⟩

/-- the step a retry loop would take (none is modelled): a decoder that asks for more on every
    proper prefix (`WantsMore`: the size named strictly exceeds what was given and never exceeds
    the full message) makes the measure `full - given` strictly decrease -/
theorem retry_terminates {α} (dec : Bytes → R α) (full : Bytes)
    (hp : ∀ k, k < full.length → WantsMore (dec (full.take k)) k full.length) :
    ∀ k, k < full.length → ∃ n : Nat, dec (full.take k) = .error (.wantLarger n) ∧
      full.length - n < full.length - k := by
  intro k hk
  obtain ⟨n, h1, h2, h3⟩ := hp k hk
  exact ⟨n, h1, by omega⟩

example : SeriesWF ⟨993, 1001, 1, [nanBits, 0x7FF8000000ABCDEF, 0x8000000000000000, 0x7FF0000000000000, 0, 0, 0, 0]⟩ := by
  constructor <;> decide

example : decSeries (encSeries (some ⟨10, 16, 2, [nanBits, 1, 2]⟩) ++ [1, 2, 3]) = .ok (⟨10, 16, 2, [nanBits, 1, 2]⟩, [1, 2, 3]) :=
  roundtrip_series _ (by constructor <;> decide) _

end Wsp.C14
