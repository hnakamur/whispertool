/-
  C06, the interoperability clause: a model of the reference reader (classic Whisper as in
  go-whisper's uncompressed `fetchFromArchive`: `Interval`, `PointOffset`, `readSeries`, the
  per-slot timestamp test) over ideal integers, and the theorem that on the same bytes it
  returns exactly what whispertool's fetch returns, for every window of the zone.

  go-whisper's `mod(a, b) = a − b·floor(float64(a)/float64(b))` is modelled as the floored
  modulus (exact for the magnitudes that occur: |a| < 2^53).
-/
import Wsp.Props.C01
namespace Wsp.C06Ref
open Wsp.Handle Wsp.C14 Wsp.C01

/-- ⟦archiveInfo.PointOffset⟧ of the reference reader: Go `/` truncates, `mod` floors -/
def refPointOffset (a : Arch) (base I : Int) : Int :=
  (a.offset : Int) + (Int.tdiv (I - base) a.step * 12) % ((a.n : Int) * 12)

/-- ⟦readSeries⟧ : one read, or two when the range wraps past the end of the archive -/
def refReadSeries (h : Handle) (a : Arch) (start end_ : Nat) : R (List Point) :=
  if start < end_ then h.readPoints (offsRange start end_)
  else h.readPoints (offsRange start (a.offset + 12 * a.n) ++ offsRange a.offset end_)

/-- the per-slot test: a slot counts only if it is stamped with the interval expected there -/
def refValues (step : Nat) : Nat → List Point → List Val
  | _, [] => []
  | cur, p :: ps => (if p.t = cur then p.v else nanBits) :: refValues step (cur + step) ps

/-- ⟦fetchFromArchive⟧ of the reference reader on the aligned bounds -/
def refFetchExec (h : Handle) (a : Arch) (fromI untilI : Nat) : R Series :=
  match h.baseInterval a with
  | .error e => .error e
  | .ok base =>
    if base = 0 then
      .ok ⟨fromI, untilI, a.step, List.replicate ((((untilI : Int) - fromI) / a.step).toNat) nanBits⟩
    else
      let untilI' := if fromI = untilI then untilI + a.step.toNat else untilI
      match refReadSeries h a (refPointOffset a base fromI).toNat (refPointOffset a base untilI').toNat with
      | .error e => .error e
      | .ok series => .ok ⟨fromI, untilI', a.step, refValues a.step.toNat fromI series⟩

theorem refPointOffset_eq (a : Arch) (hs : 0 < a.step) (hn : 0 < a.n) (hfit : a.offset + 12 * a.n ≤ 4294967295)
    (base I : Nat) (hb : base < 2147483648) (hI : I < 2147483648) :
    refPointOffset a base I = ((a.pointOffsetAt (a.pointIndex base I) : Nat) : Int) := by
  rw [pointOffsetAt_slot hn hfit]
  unfold refPointOffset slotIdx Arch.pointIndex
  rw [tsSub_ideal I base hI hb, floorMod_pos _ _ (by omega)]
  -- the reference takes the byte distance mod the archive's size: 12·x mod 12·n = 12·(x mod n)
  rw [Int.mul_comm _ 12, Int.mul_comm (a.n : Int) 12, Int.mul_emod_mul_of_pos _ _ (by omega : (0 : Int) < 12)]
  have h0 := Int.emod_nonneg (Int.tdiv ((I : Int) - base) a.step) (by omega : (a.n : Int) ≠ 0)
  push_cast
  rw [Int.toNat_of_nonneg h0]

theorem refValues_eq (s : Nat) {pts : List Point} {cur : Nat} (hb : cur + s * pts.length < 4294967296) :
    refValues s cur pts = (clearOldPoints (s : Int) cur pts).map (·.v) := by
  induction pts generalizing cur with
  | nil => rfl
  | cons p ps ih =>
    rw [List.length_cons, Nat.mul_succ] at hb
    simp only [refValues, clearOldPoints, List.map_cons, tsAdd_nat cur s (by omega)]
    rw [ih (cur := cur + s) (by omega)]
    congr 1
    by_cases ht : p.t = cur <;> simp [ht]

/-- **the reference reader and whispertool read the same series from the same bytes**, for
    every written archive and every window of the zone -/
theorem ref_reads_same (h : Handle) (p : FetchPlan) (base : Nat)
    (z : RingZone p.a base p.fromI p.untilI)
    (hbase : h.baseInterval p.a = .ok base) (hb0 : base ≠ 0)
    (hsz : p.a.offset + 12 * p.a.n ≤ h.view.length) (hfit : p.a.offset + 12 * p.a.n ≤ 4294967295) :
    refFetchExec h p.a p.fromI p.untilI = h.fetchExec p := by
  have hs := z.hs
  have hn := z.hn
  have hfl : p.fromI < 2147483648 := Nat.lt_trans z.hlt z.hu
  -- both readers compute the same offsets, hence read the same slots
  have href : refReadSeries h p.a (refPointOffset p.a base p.fromI).toNat (refPointOffset p.a base p.untilI).toNat =
      h.readPoints (rawOffsets p.a base p.fromI p.untilI) := by
    unfold refReadSeries rawOffsets
    dsimp only
    rw [refPointOffset_eq p.a hs hn hfit base p.fromI z.hb hfl, refPointOffset_eq p.a hs hn hfit base p.untilI z.hb z.hu,
      Int.toNat_natCast, Int.toNat_natCast, u32_add_mul12 _ _ hfit]
    split <;> rfl
  have hne : ¬ p.fromI = p.untilI := Nat.ne_of_lt z.hlt
  unfold refFetchExec fetchExec
  simp only [hbase, hb0, if_false, hne]
  rw [href, z.rawOffsets_eq hfit, readPoints_ring h p.a _ _ hn hsz,
    fetchRawPoints_ring h p.a base p.fromI p.untilI z hbase hsz hfit]
  refine congrArg (fun vs => (.ok ⟨p.fromI, p.untilI, p.a.step, vs⟩ : R Series)) ?_
  rw [refValues_eq, Int.toNat_of_nonneg (Int.le_of_lt hs)]
  -- left: the window read ends below 2^32
  rw [List.length_map, ringIdx_length, z.end_eq]
  exact Nat.lt_trans z.hu (by decide)

/-- on a never-written archive both readers return the same all-NaN series -/
theorem ref_reads_same_unwritten (h : Handle) (p : FetchPlan) (hs : 0 < p.a.step) (hsl : p.a.step < 2147483648)
    (hle : p.fromI ≤ p.untilI) (hu : p.untilI < 2147483648)
    (hbase : h.baseInterval p.a = .ok 0) :
    refFetchExec h p.a p.fromI p.untilI = h.fetchExec p := by
  unfold refFetchExec fetchExec
  simp only [hbase, if_true]
  congr 3
  have hd : 0 ≤ (p.untilI : Int) - p.fromI := Int.sub_nonneg.2 (Int.ofNat_le.2 hle)
  apply Int.natCast_inj.1
  rw [Int.toNat_of_nonneg (Int.ediv_nonneg hd (Int.le_of_lt hs)), u32_div_ideal _ _ hd (by omega) hs (by omega)]

end Wsp.C06Ref
