/-
  C12  Remote/local transparency: a server URL behaves like the directory it serves.

  The server runs the same local functions and sends `Header.AppendTo` followed by one
  `TimeSeries.AppendTo` (view, sum) or `Points.AppendTo` (view-raw) per archive; the client
  decodes them in sequence.  The theorems: the client gets back exactly the header and the
  series/point lists the local function produced — an absent (nil) series comes back as the
  empty series, which every accessor treats the same (`absent_is_empty`) — so whatever a
  command computes from them is the same in both modes.  A missing file answers with an
  empty body, which the client turns into a not-exist error (`not_exist_same_class`).
  HTTP, URL escaping and `%d`/`Atoi` are outside the model (assumed inverse pairs); the
  correspondence check performs real round trips against `whispertool server`.
-/
import Wsp.Props.C14
import Wsp.Model.Cmd
namespace Wsp.C12
open Wsp.C14 Wsp.Cmd

/-- what `/view` and `/sum` send -/
def encodeView (h : Header) (l : List (Option Series)) : Bytes :=
  encHeader h ++ (l.map encSeries).flatten

def andThen {α β} (r : R (α × Bytes)) (k : α → Bytes → R β) : R β :=
  match r with
  | .error e => .error e
  | .ok (a, rest) => k a rest

theorem andThen_ok {α β} (a : α) (rest : Bytes) (k : α → Bytes → R β) : andThen (.ok (a, rest)) k = k a rest := rfl

def decSeriesN : Nat → Bytes → R (List Series × Bytes)
  | 0, src => .ok ([], src)
  | n+1, src => andThen (decSeries src) fun s rest => andThen (decSeriesN n rest) fun ss rest' => .ok (s :: ss, rest')

/-- ⟦getFileDataFromRemote⟧ : an empty body is "not exist" -/
def decodeView (o : FOps) (data : Bytes) : R (Header × List Series) :=
  if data.length = 0 then .error (.err .notExist) else
  andThen (decHeader o data) fun h rest => andThen (decSeriesN h.archives.length rest) fun ss _ => .ok (h, ss)

/-- the client's view of an absent series -/
def emptyIfAbsent : Option Series → Series
  | none => ⟨0, 0, 0, []⟩
  | some s => s

/-- every accessor the commands use treats the absent series and the empty one alike -/
theorem absent_is_empty :
    sFrom none = sFrom (some (emptyIfAbsent none)) ∧ sUntil none = sUntil (some (emptyIfAbsent none)) ∧
    sStep none = sStep (some (emptyIfAbsent none)) ∧ sValues none = sValues (some (emptyIfAbsent none)) ∧
    seriesPoints none = seriesPoints (some (emptyIfAbsent none)) := by
  refine ⟨rfl, rfl, rfl, rfl, rfl⟩

/-- the absent series and the empty one are the same to every test `diff` makes -/
theorem sAcc_empty (s : Option Series) :
    sFrom (some (emptyIfAbsent s)) = sFrom s ∧ sUntil (some (emptyIfAbsent s)) = sUntil s ∧
    sStep (some (emptyIfAbsent s)) = sStep s ∧ sValues (some (emptyIfAbsent s)) = sValues s ∧
    seriesPoints (some (emptyIfAbsent s)) = seriesPoints s := by
  cases s <;> exact ⟨rfl, rfl, rfl, rfl, rfl⟩

theorem decSeries_enc (s : Option Series) (hwf : ∀ x, s = some x → SeriesWF x) (rest : Bytes) :
    decSeries (encSeries s ++ rest) = .ok (emptyIfAbsent s, rest) := by
  cases s with
  | none => exact roundtrip_absent_series rest
  | some x => exact roundtrip_series x (hwf x rfl) rest

theorem decSeriesN_enc (l : List (Option Series)) (hwf : ∀ s ∈ l, ∀ x, s = some x → SeriesWF x) (rest : Bytes) :
    decSeriesN l.length ((l.map encSeries).flatten ++ rest) = .ok (l.map emptyIfAbsent, rest) := by
  induction l with
  | nil => simp [decSeriesN]
  | cons s l ih =>
    simp only [List.map_cons, List.flatten_cons, List.length_cons, List.append_assoc]
    rw [decSeriesN, decSeries_enc s (hwf s (by simp)), andThen_ok, ih fun t ht => hwf t (by simp [ht]), andThen_ok]

/-- **view / sum transparency**: the client decodes exactly the header and the series the
    server's local call produced -/
theorem view_transparent (o : FOps) (h : Header) (wf : HeaderWF o h) (l : List (Option Series))
    (hl : l.length = h.archives.length) (hwf : ∀ s ∈ l, ∀ x, s = some x → SeriesWF x) :
    decodeView o (encodeView h l) = .ok (h, l.map emptyIfAbsent) := by
  unfold decodeView encodeView
  rw [if_neg (by rw [List.length_append, encHeader_length]; omega), roundtrip_header o h wf, andThen_ok, ← hl,
    ← List.append_nil (List.flatten _), decSeriesN_enc l hwf [], andThen_ok]

/-- what `/view-raw` sends -/
def encodeRaw (h : Header) (pl : List (List Point)) : Bytes :=
  encHeader h ++ (pl.map encPoints).flatten

def decPointsN : Nat → Bytes → R (List (List Point) × Bytes)
  | 0, src => .ok ([], src)
  | n+1, src => andThen (decPoints src) fun s rest => andThen (decPointsN n rest) fun ss rest' => .ok (s :: ss, rest')

def decodeRaw (o : FOps) (data : Bytes) : R (Header × List (List Point)) :=
  if data.length = 0 then .error (.err .notExist) else
  andThen (decHeader o data) fun h rest => andThen (decPointsN h.archives.length rest) fun ss _ => .ok (h, ss)

theorem decPointsN_enc (pl : List (List Point))
    (hwf : ∀ ps ∈ pl, (∀ p ∈ ps, p.t < 4294967296) ∧ ps.length ≤ maxPointCount) (rest : Bytes) :
    decPointsN pl.length ((pl.map encPoints).flatten ++ rest) = .ok (pl, rest) := by
  induction pl with
  | nil => simp [decPointsN]
  | cons ps pl ih =>
    have hp := hwf ps (by simp)
    simp only [List.map_cons, List.flatten_cons, List.length_cons, List.append_assoc]
    rw [decPointsN, roundtrip_points ps hp.1 hp.2, andThen_ok, ih fun t ht => hwf t (by simp [ht]), andThen_ok]

theorem view_raw_transparent (o : FOps) (h : Header) (wf : HeaderWF o h) (pl : List (List Point))
    (hl : pl.length = h.archives.length)
    (hwf : ∀ ps ∈ pl, (∀ p ∈ ps, p.t < 4294967296) ∧ ps.length ≤ maxPointCount) :
    decodeRaw o (encodeRaw h pl) = .ok (h, pl) := by
  unfold decodeRaw encodeRaw
  rw [if_neg (by rw [List.length_append, encHeader_length]; omega), roundtrip_header o h wf, andThen_ok, ← hl,
    ← List.append_nil (List.flatten _), decPointsN_enc pl hwf [], andThen_ok]

/-- a file or pattern that does not exist: the server answers with an empty body, the
    client reports not-exist — the same class as the local call -/
theorem not_exist_same_class (o : FOps) : decodeView o [] = .error (.err .notExist) ∧
    decodeRaw o [] = .error (.err .notExist) := by
  constructor <;> rfl

/-- a successful response is never empty, so it is never mistaken for not-exist -/
theorem response_nonempty (h : Header) (l : List (Option Series)) : (encodeView h l).length ≥ 16 := by
  unfold encodeView
  rw [List.length_append, encHeader_length]; omega

end Wsp.C12
