/-
  No spurious failure, for the file/handle state machine: once a file has been created and
  synced, any sequence of Sync, abandoning the handle, reopening, and single or batch updates
  that the retention rule accepts (times inside the zone) goes through without a single
  error — each operation answers `ok`, or `no handle` right after the handle was abandoned.
  Reopening always succeeds: the disk always holds the view of a handle that satisfies the
  invariant and starts with the encoding of its own header.
-/
import Wsp.Props.C03Success
import Wsp.Props.Reopen
namespace Wsp.C03S
open Wsp.Handle Wsp.C14 Wsp.Total Wsp.C01 Wsp.Inv Wsp.Reopen

def HOK (o : FOps) (hdr : Header) (h : Handle) : Prop :=
  Good h ∧ AllState h ∧ Reopenable o h ∧ h.hdr = hdr

/-- the state of the world: a disk image that is the view of a good handle; a live handle, if
    any, that is good -/
def WOK (o : FOps) (hdr : Header) (w : World) : Prop :=
  (∃ h0, w.disk = some h0.view ∧ HOK o hdr h0) ∧ ∀ h, w.h = some h → HOK o hdr h

/-- the operations considered, with the updates the retention rule accepts -/
def WOp (hdr : Header) (L T : Nat) : LibOp → Prop
  | .sync => True
  | .drop => True
  | .open_ => True
  | .upd k t v now => Accepted hdr L T (.single ⟨k, t, v, now⟩)
  | .updMany _ _ pts => ∀ p ∈ pts, p.t < 2147483648 ∧ L ≤ p.t ∧ p.t ≤ T
  | _ => False

/-- an update of the live handle that cannot fail, keeps the invariant and the header bytes:
    the world stays in order and the answer is `ok` — `no handle` if there is none.  (`r` is the result of ⟦step⟧ for `upd`
    and `updMany`, given as an equation so that both unfold to it by `rfl`.) -/
theorem live_update {o : FOps} {hdr : Header} {w : World} (hw : WOK o hdr w) {f : Handle → R Handle}
    (hf : ∀ h, Good h → AllState h → h.hdr = hdr → Post (fun _ => False) (Kept h) (f h))
    (hfr : ∀ h h', Good h → f h = .ok h' → Frame (16 + 12 * h.hdr.archives.length) h h') :
    ∀ r : World × OpObs,
      r = (match w.h with
        | none => (w, .noHandle)
        | some h => match f h with
          | .ok h' => ({ w with h := some h' }, .ok)
          | .error e => (w, .fault e)) →
      WOK o hdr r.1 ∧ (r.2 = .ok ∨ (r.2 = .noHandle ∧ w.h = none)) := by
  rintro _ rfl
  cases hh : w.h with
  | none => exact ⟨hw, Or.inr ⟨rfl, rfl⟩⟩
  | some h =>
    obtain ⟨g, al, ro, e⟩ := hw.2 h hh
    have p := hf h g al e
    obtain ⟨h', hu⟩ := p.exists_ok
    have kp := p.of_ok hu
    simp only [hu]
    exact ⟨⟨hw.1, fun h2 e2 => by
      cases e2; exact ⟨kp.good, kp.all, ro.of_frame (hfr h h' g hu), kp.hdr.trans e⟩⟩, Or.inl trivial⟩

/-- **one step**: the invariant is kept and the answer is `ok` or `no handle` -/
theorem step_ok (o : FOps) (hdr : Header) (L T : Nat)
    (c : ∀ a ∈ hdr.archives, a.step ∣ (L : Int) ∧ a.step ≤ (L : Int) ∧ 0 < a.step)
    (hT : ∀ a ∈ hdr.archives, (T : Int) + a.step < 2147483648)
    (w : World) (hw : WOK o hdr w) (op : LibOp) (hop : WOp hdr L T op) :
    WOK o hdr (w.step o op).1 ∧ ((w.step o op).2 = .ok ∨ ((w.step o op).2 = .noHandle ∧ w.h = none)) := by
  obtain ⟨⟨h0, hd, k0⟩, hlive⟩ := id hw
  cases op with
  | create | createOver | setDisk | rmDisk => exact absurd hop id
  | open_ =>
    simp only [World.step, hd, open_reopenable o h0 k0.2.2.1]
    exact ⟨⟨⟨h0, rfl, k0⟩, fun h hh => by cases hh; exact k0⟩, Or.inl trivial⟩
  | sync =>
    simp only [World.step]
    cases hh : w.h with
    | none => exact ⟨hw, Or.inr ⟨rfl, rfl⟩⟩
    | some h => exact ⟨⟨⟨h, rfl, hlive h hh⟩, fun h' h2 => by cases h2; exact hlive h hh⟩, Or.inl rfl⟩
  | drop => exact ⟨⟨hw.1, nofun⟩, Or.inl rfl⟩
  | upd k t v now =>
    exact live_update hw (f := fun h => h.updatePoint o k t v now)
      (fun h g al e => by subst e; exact updatePoint_kept_ok o c hT (Kept.refl g al) hop.1 v hop.2.1 hop.2.2)
      (fun h h' g hu => updatePoint_frame o h h' g.placed k t v now hu) _ rfl
  | updMany k now pts =>
    exact live_update hw (f := fun h => h.updateMany o pts k now)
      (fun h g al e => by subst e; exact updateMany_kept_ok o c hT (Kept.refl g al) k now hop)
      (fun h h' g hu => updateMany_frame o h h' g.placed pts k now hu) _ rfl

def answers (o : FOps) : World → List LibOp → List OpObs
  | _, [] => []
  | w, op :: ops => (w.step o op).2 :: answers o (w.step o op).1 ops

/-- **no spurious failure, any history of the state machine**: from a state in which the disk
    holds a synced good file, every operation of every history of Sync / abandon / reopen /
    accepted updates answers `ok` or `no handle` — never a fault, never not-exist -/
theorem run_ok (o : FOps) (hdr : Header) (L T : Nat)
    (c : ∀ a ∈ hdr.archives, a.step ∣ (L : Int) ∧ a.step ≤ (L : Int) ∧ 0 < a.step)
    (hT : ∀ a ∈ hdr.archives, (T : Int) + a.step < 2147483648) :
    ∀ (ops : List LibOp) (w : World), WOK o hdr w → (∀ op ∈ ops, WOp hdr L T op) →
      ∀ r ∈ answers o w ops, r = .ok ∨ r = .noHandle := by
  intro ops
  induction ops with
  | nil => intro w _ _ r hr; simp [answers] at hr
  | cons op ops ih =>
    intro w hw hops r hr
    obtain ⟨hw', hres⟩ := step_ok o hdr L T c hT w hw op (hops op (by simp))
    simp only [answers, List.mem_cons] at hr
    rcases hr with rfl | hr
    · exact hres.imp_right And.left
    · exact ih _ hw' (fun op' h' => hops op' (List.mem_cons_of_mem _ h')) r hr

/-- a file that was created and synced is such a state -/
theorem created_synced_wok (o : FOps) (agg : Nat) (xff : UInt32) (lay : List (Int × Nat)) (hl : LayInRange lay)
    (disk : Bytes) (h : Handle) (hc : createHandle o agg xff lay = .ok (disk, h)) :
    WOK o h.hdr ⟨some h.view, some h⟩ := by
  have k : HOK o h.hdr h := ⟨create_good o agg xff lay hl disk h hc, created_allstate o agg xff lay hl disk h hc,
    created_reopenable o agg xff lay hl disk h hc, rfl⟩
  exact ⟨⟨h, rfl, k⟩, fun h' hh => by cases hh; exact k⟩

end Wsp.C03S
