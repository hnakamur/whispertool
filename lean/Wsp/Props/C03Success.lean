/-
  No spurious failure: on a file whose archives satisfy the invariant of files whispertool
  writes, with the written times inside the 32-bit zone, every step of the write path
  succeeds — the consolidation step, the work-list of a level, the whole chain, a single
  update and a batch update return `ok`, never an error.  Together with C03's acceptance
  theorems: an update is refused exactly for the reasons the property names.
-/
import Wsp.Props.Invariant
import Wsp.Props.C02Batch
namespace Wsp.C03S
open Wsp.Handle Wsp.C14 Wsp.Total Wsp.C01 Wsp.Inv

variable {h0 h : Handle} {a : Arch} {L T : Nat}

theorem putPointAt_ok (h : Handle) (p : Point) (off : Nat) (hb : off + 12 ≤ h.view.length) :
    ∃ h', h.putPointAt p off = .ok h' := by
  unfold putPointAt writeAt
  rw [if_neg (by rw [encPoint_length]; omega)]
  exact ⟨_, rfl⟩

theorem store_ok (st : ArchState h a) (p : Point) : ∃ h', h.store a p = .ok h' := by
  obtain ⟨_, hn, hfit, hview, _, _⟩ := st.facts
  have hoff := getPointOffset_slot p.t hn hfit st.baseInterval
  obtain ⟨i, hi, e⟩ := getPointOffset_in_ring hn hfit hoff
  obtain ⟨h', hput⟩ := putPointAt_ok h p (a.offset + 12 * i) (by omega)
  exact ⟨h', store_ok_iff.2 ⟨_, e ▸ hoff, hput⟩⟩

/-- **the read of one consolidation step succeeds**: the finer archive is in a state of the
    invariant, the two archives are a valid pair, the coarser interval is on its grid and one
    step before 2^31 -/
theorem fetchRawPoints_ok {aHigh : Arch} (sth : ArchState h aHigh) (okh : ArchOK aHigh)
    (pr : PairOK aHigh a) {t : Nat} (gt : AbsGrid a t) (hz : (t : Int) + a.step < 2147483648) :
    ∃ pts, h.fetchRawPoints aHigh t (tsAdd t a.step) = .ok pts := by
  obtain ⟨hsH, hnH, hfitH, hviewH, hbltH, hdvdH⟩ := sth.facts
  obtain ⟨hlt, hmod, _, hdiv⟩ := pr
  obtain ⟨_, hdvdt, _⟩ := gt
  have hdvdHA : aHigh.step ∣ a.step := Int.dvd_of_emod_eq_zero hmod
  have hspan : a.step ≤ aHigh.step * (aHigh.n : Int) :=
    Int.mul_ediv_cancel' hdvdHA ▸ Int.mul_le_mul_of_nonneg_left hdiv (Int.le_of_lt hsH)
  have hpos : 0 < a.step := Int.lt_trans hsH hlt
  have hu : ((tsAdd t a.step : Nat) : Int) = t + a.step :=
    tsAdd_ideal t a.step (Int.add_nonneg (Int.natCast_nonneg t) (Int.le_of_lt hpos)) (Int.lt_trans hz (by decide))
  have hw : ((tsAdd t a.step : Nat) : Int) - t = a.step := by rw [hu, Int.add_comm, Int.add_sub_cancel]
  -- the `RingZone` of the window `[t, t + S)` read in the finer archive: one coarse step is at most a lap of it
  exact ⟨_, fetchRawPoints_ring h aHigh _ t _ ⟨hsH, hnH, okh.2.2, hbltH, Int.ofNat_lt.1 (hu ▸ hz),
    Int.ofNat_lt.1 (hu ▸ Int.lt_add_of_pos_right _ hpos), hw.symm ▸ hspan,
    Int.dvd_sub (Int.dvd_trans hdvdHA hdvdt) hdvdH, hw.symm ▸ hdvdHA⟩ sth.baseInterval hviewH hfitH⟩

theorem wfFrom_pair {as : List Arch} {off : Nat} (hw : WFFrom off as) {k : Nat} {a b : Arch}
    (ha : as[k]? = some a) (hb : as[k + 1]? = some b) : PairOK a b := by
  induction as generalizing off k with
  | nil => simp at ha
  | cons x rest ih =>
    obtain ⟨-, -, hp, hrest⟩ := (wfFrom_cons ..).1 hw
    cases k with
    | zero =>
      cases ha
      exact hp b (by simpa [List.head?_eq_getElem?] using hb)
    | succ k => exact ih hrest (by simpa using ha) (by simpa using hb)

/-- a time of `[L, T]` aligned to an archive's step stays in `[L, T]` -/
theorem _root_.Wsp.Inv.Coarse.ifw_le (c : Coarse h L) {i : Nat} (ha : h.archs[i]? = some a)
    {t : Nat} (ht : t < 2147483648) (hL : L ≤ t) (hT : t ≤ T) :
    LevelTime a L (a.intervalForWrite t) ∧ a.intervalForWrite t ≤ T :=
  ⟨c.ifw ha ht hL,
    Nat.le_trans (C02S.ifw_contains (c a (List.mem_of_getElem? ha)).2.2 (Nat.lt_trans ht (by decide))).2.1 hT⟩

/-- so, aligned to the step of archive `i ≥ 1`, it may reach level `i` -/
theorem _root_.Wsp.Inv.Coarse.ifw_ok (c : Coarse h L) {i : Nat} {l : Arch} (hl : h.archs[i]? = some l)
    (hi : 1 ≤ i) {t : Nat} (ht : t < 2147483648) (hL : L ≤ t) (hT : t ≤ T) :
    1 ≤ i ∧ ∃ a, h.archs[i]? = some a ∧ LevelTime a L (l.intervalForWrite t) ∧ l.intervalForWrite t ≤ T :=
  ⟨hi, l, hl, c.ifw_le hl ht hL hT⟩

theorem store_kept_ok (kp : Kept h0 h) {i : Nat} (ha : h0.archs[i]? = some a)
    {t : Nat} (v : Val) (gt : AbsGrid a t) : Post (fun _ => False) (Kept h0) (h.store a ⟨t, v⟩) :=
  .of_exists (store_ok (kp.all _ a (kp.archs ▸ ha)) _) fun _ hs => store_kept kp ha gt hs

/-- **no spurious failure as a rule of the update path**: the times that reach level `i ≥ 1`
    are grid times of archive `i` between `L` and `T`, with `T` one coarsest step before 2^31;
    then no step fails, and the invariant is kept -/
theorem okRule (o : FOps) (c : Coarse h0 L)
    (hT : ∀ a ∈ h0.archs, (T : Int) + a.step < 2147483648) :
    UpdRule o h0.archs (fun _ => False) (Kept h0)
      (fun i t => 1 ≤ i ∧ ∃ a, h0.archs[i]? = some a ∧ LevelTime a L t ∧ t ≤ T) where
  archs := Kept.archs
  down := fun hl ⟨_, _, _, lt, hle⟩ => c.ifw_ok hl (Nat.le_add_left 1 _) lt.1.1 lt.2 hle
  base := fun kp ha => by rw [(kp.all _ _ (kp.archs ▸ ha)).baseInterval]; trivial
  fetch := fun {h i a aH t} kp ha haH ⟨hi, _, ha', lt, hle⟩ => by
    cases ha.symm.trans ha'
    have g := kp.good
    rw [← kp.archs] at ha haH
    have pr : PairOK aH a := wfFrom_pair g.wf.2.2 haH (by rw [Nat.sub_add_cancel hi]; exact ha)
    have hz : (t : Int) + a.step < 2147483648 := Int.lt_of_le_of_lt (Int.add_le_add_right (Int.ofNat_le.2 hle) _)
      (hT a (kp.archs ▸ List.mem_of_getElem? ha))
    exact .of_exists (fetchRawPoints_ok (kp.all _ _ haH) (wfFrom_archOK g.wf.2.2 aH (List.mem_of_getElem? haH)) pr lt.1 hz)
      fun _ _ => trivial
  agg := fun kp hne => .of_exists (C02.aggregate_total o _ kp.good.2 _ hne) fun _ _ => trivial
  store := fun v kp ha ⟨_, _, ha', lt, _⟩ => by
    cases ha.symm.trans ha'
    exact store_kept_ok kp ha v lt.1

/-- **⟦propagateChain⟧ succeeds** after points of archive `k` were written at times between `L` and `T` -/
theorem propagateChain_ok (o : FOps) (h : Handle) (g : Good h) (al : AllState h) (L T : Nat) (c : Coarse h L)
    (hT : ∀ a ∈ h.archs, (T : Int) + a.step < 2147483648)
    (k : Nat) (aligned : List Point) (hal : ∀ p ∈ aligned, p.t < 2147483648 ∧ L ≤ p.t ∧ p.t ≤ T) :
    ∃ h', propagateChain o h k aligned = .ok h' :=
  (propagateChain_post (okRule o c hT) (Kept.refl g al) fun _ hl p hp =>
    c.ifw_ok hl (by omega) (hal p hp).1 (hal p hp).2.1 (hal p hp).2.2).exists_ok

theorem updatePoint_kept_ok (o : FOps) (c : Coarse h0 L)
    (hT : ∀ a ∈ h0.archs, (T : Int) + a.step < 2147483648) (kp : Kept h0 h)
    {k : Int} (hk : IdOK h0 k) {t : Nat} (v : Val) {now : Nat}
    (hacc : ¬ (t ≤ tsAdd now (- h0.hdr.maxRet) ∨ now < t)) (ht : t < 2147483648 ∧ L ≤ t ∧ t ≤ T) :
    Post (fun _ => False) (Kept h0) (h.updatePoint o k t v now) :=
  have lvl : ∀ {i : Nat} {a : Arch}, h0.archs[i]? = some a →
      LevelTime a L (a.intervalForWrite t) ∧ a.intervalForWrite t ≤ T := fun ha => c.ifw_le ha ht.1 ht.2.1 ht.2.2
  updatePoint_post (okRule o c hT) kp (fun hr => hacc (kp.hdr ▸ hr)) (fun hn => hn ⟨kp.archs ▸ kp.good.ne, hk⟩)
    (fun _ ha => store_kept_ok kp ha v (lvl ha).1.1)
    fun _ _ ha hl => c.ifw_ok hl (by omega) (lvl ha).1.1.1 (lvl ha).1.2 (lvl ha).2

/-- **a single update that is accepted succeeds**: on a file satisfying the invariant, for a
    valid archive id and a time inside the acceptance range and the 32-bit zone, the update
    returns `ok` — never an error -/
theorem updatePoint_ok (o : FOps) (h : Handle) (g : Good h) (al : AllState h) (L T : Nat) (c : Coarse h L)
    (hT : ∀ a ∈ h.archs, (T : Int) + a.step < 2147483648)
    (k : Int) (hk : IdOK h k) (t : Nat) (v : Val) (now : Nat)
    (hacc : ¬ (t ≤ tsAdd now (- h.hdr.maxRet) ∨ now < t))
    (ht : t < 2147483648 ∧ L ≤ t ∧ t ≤ T) :
    ∃ h', h.updatePoint o k t v now = .ok h' :=
  (updatePoint_kept_ok o c hT (Kept.refl g al) hk v hacc ht).exists_ok

theorem putPoints_ok (hn : 0 < a.n) (hfit : a.offset + 12 * a.n ≤ 4294967295)
    (hv : a.offset + 12 * a.n ≤ h.view.length) (base : Nat) (pts : List Point) :
    Post (fun _ => False) (fun h' => h'.view.length = h.view.length) (putPoints h a base pts) :=
  putPoints_post (fun p _ hl => .of_exists
    (putPointAt_ok _ p _ (by have := slotIdx_lt hn base p.t; rw [pointOffsetAt_slot hn hfit, hl]; omega))
    fun _ hput => (putPointAt_len hput).trans hl) rfl

theorem putAligned_ok (st : ArchState h a) {aligned : List Point} (hne : aligned ≠ []) :
    ∃ hm, h.putAligned a aligned = .ok hm := by
  obtain ⟨_, hn, hfit, hview, _, _⟩ := st.facts
  exact (Handle.putAligned_post hne (by rw [st.baseInterval]; trivial)
    (putPoints_ok hn hfit hview · aligned)).exists_ok

theorem archiveUpdateMany_post_ok (o : FOps) (c : Coarse h0 L)
    (hT : ∀ a ∈ h0.archs, (T : Int) + a.step < 2147483648) (kp : Kept h0 h)
    {k : Nat} (hk : k < h0.archs.length) {ps : List Point} (hne : ps ≠ [])
    (hps : ∀ p ∈ ps, p.t < 2147483648 ∧ L ≤ p.t ∧ p.t ≤ T) :
    Post (fun _ => False) (Kept h0) (archiveUpdateMany o h ps k) :=
  have hal : ∀ {a : Arch}, h0.archs[k]? = some a → ∀ d ∈ alignPoints a ps, LevelTime a L d.t ∧ d.t ≤ T :=
    fun {a} ha d hd => by
      obtain ⟨q, hq, e⟩ := alignPoints_times a (fun t => t < 2147483648 ∧ L ≤ t ∧ t ≤ T) hps d hd
      exact e ▸ c.ifw_le ha hq.1 hq.2.1 hq.2.2
  archiveUpdateMany_post (okRule o c hT) kp (fun hn => hn hk)
    (fun a ha => .of_exists (putAligned_ok (kp.all _ a (kp.archs ▸ ha)) (alignPoints_ne_nil a hne)) fun _ hw =>
      putAligned_kept kp ha (fun d hd => (hal ha d hd).1.1) hw)
    fun _ _ ha hl d hd => c.ifw_ok hl (by omega) (hal ha d hd).1.1.1 (hal ha d hd).1.2 (hal ha d hd).2

/-- **a batch for one archive succeeds**: a non-empty batch of times in the zone, on a file
    satisfying the invariant, is written and propagated without error -/
theorem archiveUpdateMany_ok (o : FOps) (h : Handle) (g : Good h) (al : AllState h) (L T : Nat) (c : Coarse h L)
    (hT : ∀ a ∈ h.archs, (T : Int) + a.step < 2147483648)
    (k : Nat) (a : Arch) (ha : h.archs[k]? = some a) (ps : List Point) (hne : ps ≠ [])
    (hps : ∀ p ∈ ps, p.t < 2147483648 ∧ L ≤ p.t ∧ p.t ≤ T) :
    ∃ h', archiveUpdateMany o h ps k = .ok h' :=
  (archiveUpdateMany_post_ok o c hT (Kept.refl g al) (List.getElem?_eq_some_iff.1 ha).1 hne hps).exists_ok

theorem updateMany_kept_ok (o : FOps) (c : Coarse h0 L)
    (hT : ∀ a ∈ h0.archs, (T : Int) + a.step < 2147483648) (kp : Kept h0 h)
    {ps : List Point} (k : Int) (now : Nat) (hps : ∀ p ∈ ps, p.t < 2147483648 ∧ L ≤ p.t ∧ p.t ≤ T) :
    Post (fun _ => False) (Kept h0) (h.updateMany o ps k now) :=
  updateMany_post k now Kept.archs
    (fun kp _ ha hne hq => archiveUpdateMany_post_ok o c hT kp (List.getElem?_eq_some_iff.1 ha).1 hne hq) kp hps

/-- **a batch update succeeds**: on a file satisfying the invariant, a batch whose times lie in
    the zone is written and propagated without error, whatever the batch, the archive named and
    the clock -/
theorem updateMany_ok (o : FOps) (h : Handle) (g : Good h) (al : AllState h) (L T : Nat) (c : Coarse h L)
    (hT : ∀ a ∈ h.archs, (T : Int) + a.step < 2147483648)
    (ps : List Point) (k : Int) (now : Nat) (hps : ∀ p ∈ ps, p.t < 2147483648 ∧ L ≤ p.t ∧ p.t ≤ T) :
    ∃ h', h.updateMany o ps k now = .ok h' :=
  (updateMany_kept_ok o c hT (Kept.refl g al) k now hps).exists_ok

/-- an operation the file's own rules accept: a single update names an archive that exists (or
    none) and is not refused by the retention rule; its times lie in `[L, T]` -/
def Accepted (hdr : Header) (L T : Nat) : FOp → Prop
  | .single u => (u.k = -1 ∨ (0 ≤ u.k ∧ u.k < hdr.archives.length)) ∧
      ¬ (u.t ≤ tsAdd u.now (- hdr.maxRet) ∨ u.now < u.t) ∧ u.t < 2147483648 ∧ L ≤ u.t ∧ u.t ≤ T
  | .batch ps _ _ => ∀ p ∈ ps, p.t < 2147483648 ∧ L ≤ p.t ∧ p.t ≤ T

/-- **no spurious failure, any history from `Create`**: on a file whispertool created, every
    history of updates the retention rule accepts, single or batch, to any archive, with times
    in the zone, runs to the end without a single error -/
theorem accepted_history_succeeds (o : FOps) (agg : Nat) (xff : UInt32) (lay : List (Int × Nat)) (hl : LayInRange lay)
    (disk : Bytes) (h : Handle) (hc : createHandle o agg xff lay = .ok (disk, h))
    (L T : Nat) (c : Coarse h L) (hT : ∀ a ∈ h.archs, (T : Int) + a.step < 2147483648)
    (ops : List FOp) (hok : ∀ op ∈ ops, Accepted h.hdr L T op) :
    ∃ h', runFOps o h ops = .ok h' :=
  (runFOps_post (Q := Accepted h.hdr L T)
    (fun u hq kp => updatePoint_kept_ok o c hT kp hq.1 u.v hq.2.1 hq.2.2)
    (fun _ k now hq kp => updateMany_kept_ok o c hT kp k now hq) ops h
    (Kept.refl (create_good o agg xff lay hl disk h hc) (created_allstate o agg xff lay hl disk h hc)) hok).exists_ok

/-- for the layout 1s:8, 4s:6 with `L = 4` and `T = 1 700 000 000`: the side conditions hold and
    a history of one single update and one two-point batch is accepted -/
example : Coarse exHandle 4 ∧ (∀ a ∈ exHandle.archs, ((1700000000 : Nat) : Int) + a.step < 2147483648) ∧
    ∀ op ∈ [FOp.single ⟨-1, 1699999998, 0x3F800000, 1700000000⟩,
            FOp.batch [⟨1699999990, 0x40000000⟩, ⟨1699999999, 0x40400000⟩] 1 1700000000],
      Accepted exHandle.hdr 4 1700000000 op := by
  refine ⟨by unfold Coarse; decide, by decide, fun op hop => ?_⟩
  simp only [List.mem_cons, List.not_mem_nil, or_false] at hop
  rcases hop with rfl | rfl
  · exact ⟨Or.inl rfl, by decide, by decide, by decide, by decide⟩
  · unfold Accepted; decide

end Wsp.C03S
