/-
  C01 for every archive of the file, not only the finest: from `Create` on, through any
  mixture of single and batch updates (direct writes, and every consolidation step that
  propagation makes into the coarser archives), a fetch of *any* archive inside the zone
  returns at each position either the NaN marker or the value of the slot stamped with
  exactly the interval of that position — never the value of another lap of the ring, of
  another slot or of another archive — and an archive nothing reached yet reads NaN only.
-/
import Wsp.Props.Invariant
namespace Wsp.C01
open Wsp.Handle Wsp.C14 Wsp.Total Wsp.Inv

def OpTimes (L : Nat) : FOp → Prop
  | .single u => u.t < 2147483648 ∧ L ≤ u.t
  | .batch ps _ _ => ∀ p ∈ ps, p.t < 2147483648 ∧ L ≤ p.t

/-- the invariant of files written by whispertool holds after every history -/
theorem runFOps_allstate (o : FOps) (L : Nat) : ∀ (ops : List FOp) (h h' : Handle),
    Good h → AllState h → Coarse h L → (∀ op ∈ ops, OpTimes L op) → runFOps o h ops = .ok h' →
    AllState h' ∧ Good h' ∧ h'.hdr = h.hdr :=
  fun ops h _ g al c hok hp => (runFOps_post (Q := OpTimes L) (P := Kept h)
    (fun u hq kp => .of_forall fun hm hu =>
      kp.trans (updatePoint_allstate o _ hm kp.good kp.all L (c.of_hdr kp.hdr) u.k u.t u.v u.now hq hu))
    (fun ps k now hq kp => .of_forall fun hm hu =>
      kp.trans (updateMany_allstate o _ hm kp.good kp.all L (c.of_hdr kp.hdr) ps k now hq hu))
    ops h (Kept.refl g al) hok).of_ok hp

/-- **any archive, any history from `Create`**: inside the zone the fetch is the ring read,
    and every value other than the NaN marker is the slot of exactly that interval of exactly
    that archive -/
theorem any_archive_no_stale_lap (o : FOps) (agg : Nat) (xff : UInt32) (lay : List (Int × Nat)) (hl : LayInRange lay)
    (disk : Bytes) (h h' : Handle) (hc : createHandle o agg xff lay = .ok (disk, h))
    (L : Nat) (c : Coarse h L) (ops : List FOp) (hok : ∀ op ∈ ops, OpTimes L op)
    (hp : runFOps o h ops = .ok h')
    (p : FetchPlan) (k : Nat) (hk : h'.archs[k]? = some p.a) (hw : (slotAt h' p.a 0).t ≠ 0)
    (z : RingZone p.a (slotAt h' p.a 0).t p.fromI p.untilI) :
    ∃ s, h'.fetchExec p = .ok s ∧ s.values.length = winCount p.a p.fromI p.untilI ∧
      ∀ i (hi : i < s.values.length), s.values[i] ≠ nanBits →
        slotAt h' p.a (slotIdx p.a (slotAt h' p.a 0).t (p.fromI + p.a.step.toNat * i)) =
          ⟨p.fromI + p.a.step.toNat * i, s.values[i]⟩ := by
  have g := create_good o agg xff lay hl disk h hc
  have al := created_allstate o agg xff lay hl disk h hc
  obtain ⟨al', -, -⟩ := runFOps_allstate o L ops h h' g al c hok hp
  rcases al' k p.a hk with fr | ⟨lv, _⟩
  · exact absurd (fr.zero 0 fr.hn) hw
  · refine ⟨_, fetch_refines_ring h' p _ z lv.baseInterval lv.b0 lv.view lv.fit, by simp, ?_⟩
    intro i hi hv
    simp only [List.getElem_map, List.getElem_range] at hv ⊢
    exact ringValue_slot hv

/-- an archive that nothing has reached yet reads NaN only -/
theorem any_archive_unwritten_reads_nan (o : FOps) (agg : Nat) (xff : UInt32) (lay : List (Int × Nat)) (hl : LayInRange lay)
    (disk : Bytes) (h h' : Handle) (hc : createHandle o agg xff lay = .ok (disk, h))
    (L : Nat) (c : Coarse h L) (ops : List FOp) (hok : ∀ op ∈ ops, OpTimes L op)
    (hp : runFOps o h ops = .ok h')
    (p : FetchPlan) (k : Nat) (hk : h'.archs[k]? = some p.a) (hw : (slotAt h' p.a 0).t = 0) :
    ∃ n, h'.fetchExec p = .ok ⟨p.fromI, p.untilI, p.a.step, List.replicate n nanBits⟩ := by
  have g := create_good o agg xff lay hl disk h hc
  have al := created_allstate o agg xff lay hl disk h hc
  obtain ⟨al', -, -⟩ := runFOps_allstate o L ops h h' g al c hok hp
  exact fetch_never_written h' p (hw ▸ (al' k p.a hk).baseInterval)

end Wsp.C01
