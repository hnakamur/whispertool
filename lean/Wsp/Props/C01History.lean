/-
  C01 over whole histories: after ANY sequence of writes to an archive, what a fetch may
  return for an interval `J` is decided by the last write to an interval congruent to `J`
  modulo the ring size N·S: its value if that write was to `J` itself, NaN if a later lap
  evicted it — and what was there before the history if no write touched the slot.

  `applyWrites` is the direct-write half of ⟦UpdatePointForArchive⟧ / ⟦archiveUpdateMany⟧
  (getPointOffset + putPointAt) iterated; the base interval moves whenever slot 0 is
  overwritten, and the theorem carries that through (`base_change_keeps_slots`).
-/
import Wsp.Props.C01
namespace Wsp.C01
open Wsp.Handle Wsp.C14

variable {a : Arch} {h h' : Handle}

/-- congruent modulo the ring size: the two intervals share a slot -/
def Cong (a : Arch) (I J : Nat) : Prop := (a.step * (a.n : Int)) ∣ ((I : Int) - (J : Int))

instance (a : Arch) (I J : Nat) : Decidable (Cong a I J) := by unfold Cong; exact inferInstance

theorem Cong.refl (a : Arch) (I : Nat) : Cong a I I := ⟨0, by omega⟩

theorem Cong.symm {I J : Nat} (h : Cong a I J) : Cong a J I := by
  obtain ⟨m, hm⟩ := h
  exact ⟨-m, by rw [Int.mul_neg]; omega⟩

theorem Cong.dvd_step {I J : Nat} (h : Cong a I J) : a.step ∣ ((I : Int) - J) :=
  Int.dvd_trans (Int.dvd_mul_right _ _) h

theorem dvd_sub_trans {s x y z : Int} (h1 : s ∣ x - y) (h2 : s ∣ y - z) : s ∣ x - z := by
  rw [show x - z = (x - y) + (y - z) by omega]
  exact Int.dvd_add h1 h2

theorem Cong.trans {I J K : Nat} (h1 : Cong a I J) (h2 : Cong a J K) : Cong a I K :=
  dvd_sub_trans h1 h2

/-- an interval of the archive's grid (relative to `base`), below 2^31 -/
structure OnGrid (a : Arch) (base I : Nat) : Prop where
  lt : I < 2147483648
  al : a.step ∣ ((I : Int) - (base : Int))

/-- the archive has been written: slot 0 carries a base interval, in zone -/
structure Live (h : Handle) (a : Arch) : Prop where
  hs : 0 < a.step
  hn : 0 < a.n
  fit : a.offset + 12 * a.n ≤ 4294967295
  view : a.offset + 12 * a.n ≤ h.view.length
  b0 : (slotAt h a 0).t ≠ 0
  blt : (slotAt h a 0).t < 2147483648

theorem slotIdx_base (a : Arch) (base : Nat) : slotIdx a base base = 0 := by
  unfold slotIdx Arch.pointIndex
  have : tsSub base base = 0 := by unfold tsSub i32; omega
  rw [this]
  simp [floorMod]

theorem Live.baseInterval (lv : Live h a) : h.baseInterval a = .ok (slotAt h a 0).t :=
  baseInterval_slot (by have := lv.view; have := lv.hn; omega)

/-- **one write**: the slot of `I` now answers for `I` alone; every interval congruent to
    `I` reads NaN; every other interval reads what it read before; the archive stays live
    and its grid is the same grid -/
theorem write_step (h h' : Handle) (a : Arch) (I : Nat) (v : Val) (off : Nat)
    (lv : Live h a) (gI : OnGrid a (slotAt h a 0).t I) (hI0 : I ≠ 0)
    (hoff : h.getPointOffset I a = .ok off) (hput : h.putPointAt ⟨I, v⟩ off = .ok h') :
    Live h' a ∧ (a.step * (a.n : Int)) ∣ (((slotAt h' a 0).t : Int) - ((slotAt h a 0).t : Int)) ∧
    ∀ J, OnGrid a (slotAt h a 0).t J →
      ringValue h' a (slotAt h' a 0).t J =
        if Cong a I J then (if I = J then v else nanBits) else ringValue h a (slotAt h a 0).t J := by
  have hbI := lv.baseInterval
  obtain ⟨hs, hn, hfit, hview, hb0, hblt⟩ := lv
  generalize hbase : (slotAt h a 0).t = base at *
  obtain ⟨_, hi, hnew, hold⟩ := by
    simpa only [hb0, if_false] using
      write_lands h h' a I v base off (Nat.lt_trans gI.lt (by decide)) hn hfit hbI hoff hput
  have hiff := fun J (gJ : OnGrid a base J) => slot_congruent a base I J hs hn hblt gI.lt gJ.lt gI.al gJ.al
  generalize slotIdx a base I = i at *
  have hother : ∀ j, j ≠ i → slotAt h' a j = slotAt h a j := fun j hj => hold a j (slots_apart _ hj)
  -- the new base: `I` if slot 0 was hit (then `I` shares the old base's slot), else the old one
  obtain ⟨hb'lt, hb'0, hcong⟩ :
      (slotAt h' a 0).t < 2147483648 ∧ (slotAt h' a 0).t ≠ 0 ∧ Cong a (slotAt h' a 0).t base := by
    by_cases h0 : i = 0
    · subst h0
      rw [hnew]
      exact ⟨gI.lt, hI0, (hiff base ⟨hblt, Int.sub_self (base : Int) ▸ Int.dvd_zero _⟩).1 (slotIdx_base a base).symm⟩
    · rw [hother 0 (Ne.symm h0), hbase]
      exact ⟨hblt, hb0, Cong.refl a base⟩
  refine ⟨⟨hs, hn, hfit, putPointAt_len hput ▸ hview, hb'0, hb'lt⟩, hcong, fun J gJ => ?_⟩
  unfold ringValue
  rw [base_change_keeps_slots a base _ J hs hn hblt hb'lt gJ.lt hcong gJ.al]
  by_cases hc : Cong a I J
  · rw [if_pos hc, ← (hiff J gJ).2 hc, hnew]
  · rw [if_neg hc, hother _ fun e => hc ((hiff J gJ).1 e.symm)]

def applyWrites (a : Arch) : Handle → List (Nat × Val) → R Handle
  | h, [] => .ok h
  | h, w :: ws =>
    match h.getPointOffset w.1 a with
    | .error e => .error e
    | .ok off =>
      match h.putPointAt ⟨w.1, w.2⟩ off with
      | .error e => .error e
      | .ok h' => applyWrites a h' ws

/-- the last write of the history to an interval sharing `J`'s slot -/
def lastCong (a : Arch) (J : Nat) : List (Nat × Val) → Option (Nat × Val)
  | [] => none
  | w :: ws =>
    match lastCong a J ws with
    | some x => some x
    | none => if Cong a w.1 J then some w else none

/-- the value the history assigns to interval `J` -/
def histValue (a : Arch) (ws : List (Nat × Val)) (before : Nat → Val) (J : Nat) : Val :=
  match lastCong a J ws with
  | some w => if w.1 = J then w.2 else nanBits
  | none => before J

theorem histValue_congr {ws : List (Nat × Val)} {b b' : Nat → Val} {J : Nat} (e : b J = b' J) :
    histValue a ws b J = histValue a ws b' J := by
  unfold histValue; rw [e]

theorem histValue_cons (a : Arch) (w : Nat × Val) (ws : List (Nat × Val)) (b : Nat → Val) (J : Nat) :
    histValue a (w :: ws) b J =
      histValue a ws (fun J => if Cong a w.1 J then (if w.1 = J then w.2 else nanBits) else b J) J := by
  unfold histValue
  simp only [lastCong]
  cases lastCong a J ws with
  | some x => rfl
  | none => by_cases hc : Cong a w.1 J <;> simp [hc]

def SameOn (a : Arch) (h1 h2 : Handle) : Prop :=
  h2.view.length = h1.view.length ∧ ∀ j, j < a.n → slotAt h2 a j = slotAt h1 a j

theorem SameOn.refl (a : Arch) (h : Handle) : SameOn a h h := ⟨rfl, fun _ _ => rfl⟩

theorem SameOn.trans {h1 h2 h3 : Handle} (s1 : SameOn a h1 h2) (s2 : SameOn a h2 h3) : SameOn a h1 h3 :=
  ⟨s2.1.trans s1.1, fun j hj => (s2.2 j hj).trans (s1.2 j hj)⟩

theorem SameOn.reads {h1 h2 : Handle} (s : SameOn a h1 h2) (hn : 0 < a.n) (J : Nat) :
    ringValue h2 a (slotAt h2 a 0).t J = ringValue h1 a (slotAt h1 a 0).t J := by
  unfold ringValue
  rw [s.2 0 hn, s.2 _ (slotIdx_lt hn _ J)]

theorem SameOn.live {h1 h2 : Handle} (s : SameOn a h1 h2) (lv : Live h1 a) :
    Live h2 a ∧ (slotAt h2 a 0).t = (slotAt h1 a 0).t := by
  have h0 := s.2 0 lv.hn
  exact ⟨⟨lv.hs, lv.hn, lv.fit, by rw [s.1]; exact lv.view, by rw [h0]; exact lv.b0, by rw [h0]; exact lv.blt⟩,
    by rw [h0]⟩

/-- a never-written archive of a fresh file: every slot carries time 0 -/
structure Fresh (h : Handle) (a : Arch) : Prop where
  hs : 0 < a.step
  hn : 0 < a.n
  fit : a.offset + 12 * a.n ≤ 4294967295
  view : a.offset + 12 * a.n ≤ h.view.length
  zero : ∀ j, j < a.n → (slotAt h a j).t = 0

theorem Fresh.of_sameOn (fr : Fresh h a) (s : SameOn a h h') : Fresh h' a :=
  ⟨fr.hs, fr.hn, fr.fit, by rw [s.1]; exact fr.view, fun j hj => by rw [s.2 j hj]; exact fr.zero j hj⟩

theorem Fresh.reads_nan (fr : Fresh h a) {base J : Nat} (hJ : J ≠ 0) : ringValue h a base J = nanBits := by
  unfold ringValue
  rw [fr.zero _ (slotIdx_lt fr.hn base J), if_neg (Ne.symm hJ)]

theorem Fresh.baseInterval (fr : Fresh h a) : h.baseInterval a = .ok 0 :=
  fr.zero 0 fr.hn ▸ baseInterval_slot (by have := fr.view; have := fr.hn; omega)

/-- the first write to a never-written archive goes to slot 0 and becomes the base -/
theorem first_write (h h1 : Handle) (a : Arch) (I : Nat) (v : Val) (off : Nat)
    (fr : Fresh h a) (hI : I < 2147483648) (hI0 : I ≠ 0)
    (hoff : h.getPointOffset I a = .ok off) (hput : h.putPointAt ⟨I, v⟩ off = .ok h1) :
    Live h1 a ∧ (slotAt h1 a 0).t = I ∧
    ∀ J, J ≠ 0 → ringValue h1 a I J = if I = J then v else nanBits := by
  have hbI := fr.baseInterval
  obtain ⟨hs, hn, hfit, hview, hz⟩ := fr
  obtain ⟨_, _, hnew, hold⟩ := by
    simpa only [if_true] using write_lands h h1 a I v 0 off (Nat.lt_trans hI (by decide)) hn hfit hbI hoff hput
  refine ⟨⟨hs, hn, hfit, putPointAt_len hput ▸ hview, by rw [hnew]; exact hI0, by rw [hnew]; exact hI⟩, by rw [hnew], fun J hJ0 => ?_⟩
  unfold ringValue
  by_cases h0 : slotIdx a I J = 0
  · rw [h0, hnew]
  · rw [hold a _ (slots_apart _ h0), hz _ (slotIdx_lt hn I J), if_neg (Ne.symm hJ0),
      if_neg fun e : I = J => h0 (by subst e; exact slotIdx_base a I)]

/-- never written, or live with its base on the grid through `g`: the two states an archive
    is in while the times written to it stay on that grid -/
def GridState (g : Nat) (h : Handle) (a : Arch) : Prop :=
  Fresh h a ∨ (Live h a ∧ OnGrid a g (slotAt h a 0).t)

theorem OnGrid.rebase {g B J : Nat} (gJ : OnGrid a g J) (hB : a.step ∣ (B : Int) - g) : OnGrid a B J :=
  ⟨gJ.lt, by rw [show (J : Int) - B = ((J : Int) - g) - ((B : Int) - g) by omega]; exact Int.dvd_sub gJ.al hB⟩

theorem GridState.of_sameOn {g : Nat} (st : GridState g h a) (s : SameOn a h h') : GridState g h' a := by
  rcases st with fr | ⟨lv, gB⟩
  · exact Or.inl (fr.of_sameOn s)
  · obtain ⟨lv', hb⟩ := s.live lv
    exact Or.inr ⟨lv', hb ▸ gB⟩

theorem GridState.hn {g : Nat} (st : GridState g h a) : 0 < a.n :=
  st.elim (·.hn) (·.1.hn)

/-- **one write, in either state** (`first_write`, `write_step`): the archive is live
    afterwards, on the same grid; intervals sharing the slot of `I` read `v` at `I` and NaN
    elsewhere; the others read what they read before.  A never-written archive says nothing
    of time 0: its empty slots carry that stamp. -/
theorem write_any {g : Nat} {h1 : Handle} {I : Nat} {v : Val} {off : Nat}
    (st : GridState g h a) (gI : OnGrid a g I) (hI0 : I ≠ 0)
    (hoff : h.getPointOffset I a = .ok off) (hput : h.putPointAt ⟨I, v⟩ off = .ok h1) :
    Live h1 a ∧ OnGrid a g (slotAt h1 a 0).t ∧
    (Live h a → Cong a (slotAt h1 a 0).t (slotAt h a 0).t) ∧
    ∀ J, OnGrid a g J → J ≠ 0 ∨ Live h a →
      ringValue h1 a (slotAt h1 a 0).t J =
        if Cong a I J then (if I = J then v else nanBits) else ringValue h a (slotAt h a 0).t J := by
  rcases st with fr | ⟨lv, gB⟩
  · have nlv : ¬ Live h a := fun lv => lv.b0 (fr.zero 0 fr.hn)
    obtain ⟨lv1, hb1, fw⟩ := first_write h h1 a I v off fr gI.lt hI0 hoff hput
    refine ⟨lv1, hb1 ▸ gI, fun lv => absurd lv nlv, fun J _ hJ => ?_⟩
    have hJ0 := hJ.resolve_right nlv
    rw [hb1, fw J hJ0, fr.reads_nan hJ0]
    by_cases hc : Cong a I J
    · rw [if_pos hc]
    · rw [if_neg hc, if_neg fun e : I = J => hc (e ▸ Cong.refl a I)]
  · obtain ⟨lv1, hc1, stp⟩ := write_step h h1 a I v off lv (gI.rebase gB.al) hI0 hoff hput
    exact ⟨lv1, ⟨lv1.blt, dvd_sub_trans (Cong.dvd_step hc1) gB.al⟩, fun _ => hc1, fun J gJ _ => stp J (gJ.rebase gB.al)⟩

/-- what happened to archive `a` between two handles: a list of events, `some w` a write of
    `w` to `a` (followed by anything that leaves `a` alone), `none` anything that leaves
    `a` alone -/
def Reach (a : Arch) : Handle → List (Option (Nat × Val)) → Handle → Prop
  | h, [], h' => SameOn a h h'
  | h, none :: es, h' => ∃ hm, SameOn a h hm ∧ Reach a hm es h'
  | h, some w :: es, h' => ∃ off h1 hm, h.getPointOffset w.1 a = .ok off ∧
      h.putPointAt ⟨w.1, w.2⟩ off = .ok h1 ∧ SameOn a h1 hm ∧ Reach a hm es h'

def writesOf (es : List (Option (Nat × Val))) : List (Nat × Val) := es.filterMap id

@[simp] theorem writesOf_some (w : Nat × Val) (es : List (Option (Nat × Val))) :
    writesOf (some w :: es) = w :: writesOf es := rfl

/-- **the history theorem**, for either state of the archive and any grid: after any sequence
    of events whose writes lie on the grid, the archive is in one of the two states again,
    and each grid interval reads what the history assigns to it.  The one induction: the
    history statements for live archives, never-written ones and plain write lists are its
    instances. -/
theorem reach_inv {g : Nat} {es : List (Option (Nat × Val))}
    (st : GridState g h a) (hws : ∀ w ∈ writesOf es, OnGrid a g w.1 ∧ w.1 ≠ 0) (r : Reach a h es h') :
    GridState g h' a ∧
    (Live h a → Live h' a ∧ Cong a (slotAt h' a 0).t (slotAt h a 0).t) ∧
    ∀ J, OnGrid a g J → J ≠ 0 ∨ Live h a →
      ringValue h' a (slotAt h' a 0).t J = histValue a (writesOf es) (ringValue h a (slotAt h a 0).t) J := by
  induction es generalizing h with
  | nil =>
    have s : SameOn a h h' := r
    exact ⟨st.of_sameOn s, fun lv => ⟨(s.live lv).1, (s.live lv).2 ▸ Cong.refl a _⟩, fun J _ _ => s.reads st.hn J⟩
  | cons e es ih =>
    cases e with
    | none =>
      obtain ⟨hm, s, r⟩ := r
      obtain ⟨st', hl, rd⟩ := ih (st.of_sameOn s) hws r
      refine ⟨st', fun lv => ?_, fun J gJ hJ => ?_⟩
      · obtain ⟨lvm, hb⟩ := s.live lv
        exact hb ▸ hl lvm
      · rw [rd J gJ (hJ.imp id fun lv => (s.live lv).1)]
        exact histValue_congr (s.reads st.hn J)
    | some w =>
      obtain ⟨off, h1, hm, hoff, hput, s, r⟩ := r
      obtain ⟨gw, hw0⟩ := hws w (by simp)
      obtain ⟨lv1, gB1, hc1, stp⟩ := write_any st gw hw0 hoff hput
      obtain ⟨lvm, hb⟩ := s.live lv1
      obtain ⟨st', hl, rd⟩ := ih (Or.inr ⟨lvm, hb ▸ gB1⟩) (fun x hx => hws x (by simp [hx])) r
      obtain ⟨lv', hc'⟩ := hl lvm
      refine ⟨st', fun lv => ⟨lv', Cong.trans (hb ▸ hc') (hc1 lv)⟩, fun J gJ hJ => ?_⟩
      rw [rd J gJ (Or.inr lvm), writesOf_some, histValue_cons]
      exact histValue_congr ((s.reads st.hn J).trans (stp J gJ hJ))

theorem history_reach (a : Arch) (es : List (Option (Nat × Val))) :
    ∀ (h h' : Handle), Live h a → (∀ w ∈ writesOf es, OnGrid a (slotAt h a 0).t w.1 ∧ w.1 ≠ 0) →
      Reach a h es h' →
      Live h' a ∧ (a.step * (a.n : Int)) ∣ (((slotAt h' a 0).t : Int) - ((slotAt h a 0).t : Int)) ∧
      ∀ J, OnGrid a (slotAt h a 0).t J →
        ringValue h' a (slotAt h' a 0).t J = histValue a (writesOf es) (ringValue h a (slotAt h a 0).t) J := by
  intro h h' lv hws r
  obtain ⟨_, hl, rd⟩ := reach_inv (Or.inr ⟨lv, lv.blt, ⟨0, by omega⟩⟩) hws r
  exact ⟨(hl lv).1, (hl lv).2, fun J gJ => rd J gJ (Or.inr lv)⟩

theorem onGrid_zero {J : Nat} (hJ : J < 2147483648) (hal : a.step ∣ (J : Int)) : OnGrid a 0 J :=
  ⟨hJ, by simpa using hal⟩

/-- the same from a never-written archive: everything not written reads NaN -/
theorem history_fresh (a : Arch) (es : List (Option (Nat × Val))) :
    ∀ (h h' : Handle), Fresh h a →
      (∀ w ∈ writesOf es, w.1 < 2147483648 ∧ a.step ∣ (w.1 : Int) ∧ w.1 ≠ 0) →
      Reach a h es h' →
      ∀ J : Nat, J < 2147483648 → a.step ∣ (J : Int) → J ≠ 0 →
        ringValue h' a (slotAt h' a 0).t J = histValue a (writesOf es) (fun _ => nanBits) J := by
  intro h h' fr hws r J hJ hJal hJ0
  obtain ⟨_, _, rd⟩ := reach_inv (g := 0) (Or.inl fr)
    (fun w hw => ⟨onGrid_zero (hws w hw).1 (hws w hw).2.1, (hws w hw).2.2⟩) r
  rw [rd J (onGrid_zero hJ hJal) (Or.inl hJ0)]
  exact histValue_congr (fr.reads_nan hJ0)

theorem applyWrites_reach {ws : List (Nat × Val)} (hp : applyWrites a h ws = .ok h') :
    Reach a h (ws.map some) h' := by
  induction ws generalizing h with
  | nil => cases hp; exact SameOn.refl a _
  | cons w ws ih =>
    unfold applyWrites at hp
    split at hp
    · cases hp
    · split at hp
      · cases hp
      · exact ⟨_, _, _, ‹_›, ‹_›, SameOn.refl a _, ih hp⟩

theorem writesOf_map_some (ws : List (Nat × Val)) : writesOf (ws.map some) = ws := by
  induction ws with
  | nil => rfl
  | cons w ws ih => rw [List.map_cons, writesOf_some, ih]

/-- **whole histories**: after any sequence of writes to grid intervals of a live archive,
    each grid interval `J` reads the value of the last write that shared its slot if that
    write was to `J` itself, NaN if it was to another lap, and what it read before the
    history if there was none -/
theorem history (a : Arch) (ws : List (Nat × Val)) :
    ∀ (h h' : Handle), Live h a → (∀ w ∈ ws, OnGrid a (slotAt h a 0).t w.1 ∧ w.1 ≠ 0) →
      applyWrites a h ws = .ok h' →
      Live h' a ∧ (a.step * (a.n : Int)) ∣ (((slotAt h' a 0).t : Int) - ((slotAt h a 0).t : Int)) ∧
      ∀ J, OnGrid a (slotAt h a 0).t J →
        ringValue h' a (slotAt h' a 0).t J =
          match lastCong a J ws with
          | some w => if w.1 = J then w.2 else nanBits
          | none => ringValue h a (slotAt h a 0).t J := by
  intro h h' lv hws hp
  have := history_reach a (ws.map some) h h' lv (by rwa [writesOf_map_some]) (applyWrites_reach hp)
  rwa [writesOf_map_some] at this

theorem lastCong_none {J : Nat} {post : List (Nat × Val)} (hpost : ∀ w ∈ post, ¬ Cong a w.1 J) :
    lastCong a J post = none := by
  induction post with
  | nil => rfl
  | cons x xs ih =>
    simp only [lastCong]
    rw [ih (fun w hw => hpost w (by simp [hw]))]
    simp [hpost x (by simp)]

theorem lastCong_mid {J : Nat} {pre post : List (Nat × Val)} {I : Nat} {v : Val} (hIJ : Cong a I J)
    (hpost : ∀ w ∈ post, ¬ Cong a w.1 J) : lastCong a J (pre ++ (I, v) :: post) = some (I, v) := by
  induction pre with
  | nil => simp only [List.nil_append, lastCong, lastCong_none hpost]; simp [hIJ]
  | cons x xs ih => simp only [List.cons_append, lastCong, ih]

/-- **read your writes**: a value written to `J` and not evicted since is what `J` reads -/
theorem read_your_write (a : Arch) (pre post : List (Nat × Val)) (J : Nat) (v : Val) (h h' : Handle)
    (lv : Live h a) (hws : ∀ w ∈ pre ++ (J, v) :: post, OnGrid a (slotAt h a 0).t w.1 ∧ w.1 ≠ 0)
    (hpost : ∀ w ∈ post, ¬ Cong a w.1 J)
    (hp : applyWrites a h (pre ++ (J, v) :: post) = .ok h') :
    ringValue h' a (slotAt h' a 0).t J = v := by
  obtain ⟨_, _, hr⟩ := history a _ h h' lv hws hp
  rw [hr J (hws (J, v) (by simp)).1, lastCong_mid (Cong.refl a J) hpost]
  simp

/-- **eviction**: once a later lap is written to the slot, the older interval reads NaN -/
theorem evicted_reads_nan (a : Arch) (pre post : List (Nat × Val)) (I J : Nat) (v : Val) (h h' : Handle)
    (lv : Live h a) (hws : ∀ w ∈ pre ++ (I, v) :: post, OnGrid a (slotAt h a 0).t w.1 ∧ w.1 ≠ 0)
    (gJ : OnGrid a (slotAt h a 0).t J) (hIJ : Cong a I J) (hne : I ≠ J)
    (hpost : ∀ w ∈ post, ¬ Cong a w.1 J)
    (hp : applyWrites a h (pre ++ (I, v) :: post) = .ok h') :
    ringValue h' a (slotAt h' a 0).t J = nanBits := by
  obtain ⟨_, _, hr⟩ := history a _ h h' lv hws hp
  rw [hr J gJ, lastCong_mid hIJ hpost]
  simp [hne]

theorem _root_.Wsp.RingZone.onGrid {base fI uI : Nat} (z : RingZone a base fI uI) {i : Nat}
    (hi : i < winCount a fI uI) : OnGrid a base (fI + a.step.toNat * i) := by
  refine ⟨Nat.lt_trans (z.instant_lt hi) z.hu, ?_⟩
  rw [window_cast z.hs, Int.add_comm, Int.add_sub_assoc]
  exact Int.dvd_add (Int.dvd_mul_right _ _) z.hal1

/-- **a fetch after any history**: inside the zone, every value of the returned window is
    the one the history assigns to its interval — the last value written there unless a
    later lap took the slot (then NaN), and what was readable before if nothing touched it -/
theorem fetch_after_history (h h' : Handle) (p : FetchPlan) (ws : List (Nat × Val))
    (lv : Live h p.a) (hws : ∀ w ∈ ws, OnGrid p.a (slotAt h p.a 0).t w.1 ∧ w.1 ≠ 0)
    (hp : applyWrites p.a h ws = .ok h')
    (z : RingZone p.a (slotAt h' p.a 0).t p.fromI p.untilI) :
    h'.fetchExec p = .ok ⟨p.fromI, p.untilI, p.a.step,
      (List.range (winCount p.a p.fromI p.untilI)).map fun i =>
        histValue p.a ws (ringValue h p.a (slotAt h p.a 0).t) (p.fromI + p.a.step.toNat * i)⟩ := by
  obtain ⟨lv', hc, hr⟩ := history p.a ws h h' lv hws hp
  rw [fetch_refines_ring h' p _ z lv'.baseInterval lv'.b0 lv'.view lv'.fit]
  -- each interval of the window is on the grid of the new base, hence of the old one
  exact congrArg (fun vs => (.ok ⟨p.fromI, p.untilI, p.a.step, vs⟩ : R Series))
    (List.map_congr_left fun i hi => hr _ ((z.onGrid (List.mem_range.1 hi)).rebase (Cong.symm hc).dvd_step))

end Wsp.C01
