/-
  `Open` and `Create`, characterised once.  ⟦readHeader⟧ evaluates ⟦Header.TakeFrom⟧ without reading
  the file whole: it succeeds exactly on files that start with the encoding of a well-formed header,
  which it returns (`readHeader_ok_iff`), and otherwise fails with an error that is not a panic.
  With `openBytes_ok` this says what `Open` accepts; the creating operations are read off their
  definitions (`newHeader_ok`, `recreateHandle_ok_iff`), `Create` on a fresh path being `Create` over
  the empty file (`createHandle_eq`).

  Last, the file/handle state machine inverted once (`World.step_inv`): the handle of the next state
  is the old one or was made by one of four primitives (`World.Made`), and a fault is the error of
  one (`World.Failed`).
-/
import Wsp.Props.C14
import Wsp.Model.World
-- the default `split` re-simplifies the nested `if`s at every level: exponential in their depth (⟦readHeader⟧, ⟦NewHeader⟧)
set_option backward.split false
namespace Wsp
open C14
variable {o : FOps}

theorem readAt_zero (view : Bytes) (n : Nat) :
    readAt view 0 n = if view.length < n then .error (.err .io) else .ok (view.take n) := by
  simp [readAt]

theorem writeAt_zero (view bs : Bytes) :
    writeAt view 0 bs = if view.length < bs.length then .error (.err .io) else .ok (bs ++ view.drop bs.length) := by
  simp [writeAt]

/-- a list cut or padded to length `n` -/
theorem length_take_append_replicate {α} (l : List α) (n : Nat) (x : α) :
    (l.take n ++ List.replicate (n - l.length) x).length = n := by
  rw [List.length_append, List.length_take, List.length_replicate, Nat.add_comm, Nat.sub_add_min_cancel]

theorem writeAt_parts {view : Bytes} {off : Nat} {bs v : Bytes} (h : writeAt view off bs = .ok v) :
    v.length = view.length ∧ v.take off = view.take off ∧ (v.drop off).take bs.length = bs ∧
      v.drop (off + bs.length) = view.drop (off + bs.length) := by
  unfold writeAt at h
  split at h
  · cases h
  · rename_i hle
    cases h
    have hle : off + bs.length ≤ view.length := Nat.not_lt.1 hle
    have hlen : (view.take off).length = off := List.length_take_of_le (Nat.le_trans (Nat.le_add_right ..) hle)
    refine ⟨?_, ?_, ?_, ?_⟩
    · rw [List.length_append, List.length_append, hlen, List.length_drop, Nat.add_sub_cancel' hle]
    · rw [List.append_assoc, List.take_left' hlen]
    · rw [List.append_assoc, List.drop_left' hlen, List.take_left' rfl]
    · rw [List.drop_left' (by rw [List.length_append, hlen])]

theorem putPointAt_parts {h h' : Handle} {p : Point} {off : Nat} (hp : h.putPointAt p off = .ok h') :
    h'.hdr = h.hdr ∧ h'.view.length = h.view.length ∧ h'.view.take off = h.view.take off ∧
      (h'.view.drop off).take 12 = encPoint p ∧
      h'.view.drop (off + 12) = h.view.drop (off + 12) := by
  unfold Handle.putPointAt at hp
  split at hp
  · cases hp
  · rename_i v hw
    cases hp
    exact ⟨rfl, encPoint_length p ▸ writeAt_parts hw⟩

/-- ⟦readHeader⟧ without the plumbing: the second read cannot fail -/
theorem readHeader_eq (o : FOps) (view : Bytes) (ps : Nat) : readHeader o view ps =
    if view.length < 16 then .error (.err .io) else
    match decHeader o (view.take 16) with
    | .ok (h, _) => .ok h
    | .error (.wantLarger n) =>
      if n > (view.length : Int) then .error (.err .invalid) else
      match decHeader o (view.take n.toNat ++ List.replicate ((if n.toNat > ps then n.toNat else ps) - n.toNat) 0) with
      | .ok (h, _) => .ok h
      | .error e => .error e
    | .error e => .error e := by
  unfold readHeader
  simp only [bind, Except.bind, readAt_zero]
  by_cases h16 : view.length < 16
  · rw [if_pos h16, if_pos h16]
  · rw [if_neg h16, if_neg h16]
    dsimp only
    rcases decHeader o (view.take 16) with (_ | _ | n) | ⟨h, r⟩
    · rfl
    · rfl
    · dsimp only
      by_cases hn : n > (view.length : Int)
      · rw [if_pos hn, if_pos hn]; rfl
      · rw [if_neg hn, if_neg hn, if_neg (Nat.not_lt.2 (Int.toNat_le.2 (Int.not_lt.1 hn)))]
        dsimp only
        rcases decHeader o _ with _ | ⟨h, r⟩ <;> rfl
    · rfl

/-- The first read, of sixteen bytes, can only ask for the header it sees there (sixteen bytes hold
    no archive, and an empty list is not valid); the second read is that header. -/
theorem readHeader_ok_iff {view : Bytes} {ps : Nat} {hd : Header} :
    readHeader o view ps = .ok hd ↔ HeaderWF o hd ∧ view.take (16 + 12 * hd.archives.length) = encHeader hd ∧
      16 + 12 * hd.archives.length ≤ view.length := by
  have hL := encHeader_length hd
  rw [readHeader_eq]
  constructor
  · intro hok
    repeat' split at hok
    any_goals cases hok
    · rename_i h16 _ r e
      obtain ⟨eb, wf⟩ := decHeader_ok_iff.1 e
      have hb := congrArg List.length eb
      rw [List.length_append, hL, List.length_take_of_le (Nat.le_of_not_lt h16)] at hb
      exact absurd hb (Nat.ne_of_lt (Nat.lt_of_lt_of_le wf.sixteen_lt (Nat.le_add_right ..)))
    · rename_i h16 _ n e hn _ r e2
      obtain ⟨eb, wf⟩ := decHeader_ok_iff.1 e2
      obtain h | ⟨m, h, h16m⟩ := decHeader_error e <;> cases h
      rw [List.length_take_of_le (Nat.le_of_not_lt h16)] at h16m
      have hm : m ≤ view.length := by omega
      have hcut := List.length_take_of_le hm
      rw [Int.toNat_natCast] at eb
      -- on its first sixteen bytes the buffer asks for the header it holds: that is the size asked for
      have hn' := decHeader_enc_take wf r 16 (Nat.le_refl _)
      rw [← eb, List.take_append_of_le_length (by rw [hcut]; exact Nat.le_of_lt h16m), List.take_take,
        Nat.min_eq_left (Nat.le_of_lt h16m), e, if_pos wf.sixteen_lt] at hn'
      cases hn'
      exact ⟨wf, (List.append_inj eb (hcut.trans hL.symm)).1, hm⟩
  · rintro ⟨wf, hpre, hlen⟩
    have h1 : decHeader o (view.take 16) = .error (.wantLarger ((16 + 12 * hd.archives.length : Nat) : Int)) := by
      have := decHeader_enc_take wf (view.drop (16 + 12 * hd.archives.length)) 16 (Nat.le_refl _)
      rwa [← hpre, List.take_append_drop, if_pos wf.sixteen_lt] at this
    have h16 : ¬ view.length < 16 := Nat.not_lt.2 (Nat.le_trans (Nat.le_add_right ..) hlen)
    have hn : ¬ ((16 + 12 * hd.archives.length : Nat) : Int) > (view.length : Int) := Int.not_lt.2 (Int.ofNat_le.2 hlen)
    simp only [h16, if_false, h1, hn, Int.toNat_natCast, hpre, roundtrip_header o hd wf]

theorem C14.readHeader_inv (o : FOps) (view : Bytes) (ps : Nat) (hd : Header)
    (hok : readHeader o view ps = .ok hd) :
    HeaderWF o hd ∧ view.take (16 + 12 * hd.archives.length) = encHeader hd ∧
      16 + 12 * hd.archives.length ≤ view.length := readHeader_ok_iff.1 hok

def NotPanic (e : Fault) : Prop := ∀ w, e ≠ .panic w

theorem readHeader_error {view : Bytes} {ps : Nat} {e : Fault} (h : readHeader o view ps = .error e) : NotPanic e := by
  intro w
  have dec : ∀ src e, decHeader o src = .error e → e ≠ .panic w := by
    intro src e h
    rcases decHeader_error h with rfl | ⟨_, rfl, _⟩ <;> simp
  rw [readHeader_eq] at h
  split at h
  · cases h; simp
  · split at h
    · cases h
    · split at h
      · cases h; simp
      · split at h
        · cases h
        · rename_i e2; cases h; exact dec _ _ e2
    · rename_i e1; cases h; exact dec _ _ e1

theorem openBytes_ok {bytes : Bytes} {ps : Nat} {h : Handle} :
    openBytes o bytes ps = .ok h ↔
      readHeader o bytes ps = .ok h.hdr ∧ h.view = bytes ∧ h.hdr.expectedFileSize ≤ bytes.length := by
  unfold openBytes
  simp only [bind, Except.bind]
  cases readHeader o bytes ps with
  | error e => simp
  | ok hd =>
    obtain ⟨hdr, view⟩ := h
    by_cases hl : bytes.length < hd.expectedFileSize
    · simp [hl, throw, throwThe, MonadExceptOf.throw]; intro e; subst e; omega
    · simp [hl, pure, Except.pure]; intro e; subst e; simp [eq_comm]; intro _; omega

theorem openBytes_error {bytes : Bytes} {ps : Nat} {e : Fault} (h : openBytes o bytes ps = .error e) : NotPanic e := by
  intro w
  unfold openBytes at h
  simp only [bind, Except.bind] at h
  cases hr : readHeader o bytes ps with
  | error e' => rw [hr] at h; cases h; exact readHeader_error hr w
  | ok hd =>
    rw [hr] at h
    simp only [throw, throwThe, MonadExceptOf.throw, pure, Except.pure] at h
    split at h <;> cases h
    simp

section Create
variable {agg : Nat} {xff : UInt32} {lay : List (Int × Nat)}

theorem newHeader_ok {h : Header} (hok : newHeader o agg xff lay = .ok h) :
    validAgg agg = true ∧ o.xffValid xff = true ∧ validateArchs h.archives = true ∧
    h.archives = fillOffsets (lay.map fun (s, n) => ⟨0, s, n⟩) ∧ h.agg = agg ∧ h.xff = xff ∧
    h.count = u32 h.archives.length ∧ ∃ last : Arch, h.maxRet = last.maxRetention := by
  unfold newHeader at hok
  dsimp only at hok
  repeat' split at hok
  any_goals cases hok
  rename_i ha hx hv _ last hl
  exact ⟨by simpa using ha, by simpa using hx, by simpa using hv, rfl, rfl, rfl, rfl, last, rfl⟩

theorem newHeader_error {e : Fault} (h : newHeader o agg xff lay = .error e) : e = .err .invalid := by
  unfold newHeader at h
  dsimp only at h
  repeat' split at h
  all_goals (cases h <;> rfl)

theorem createHandle_eq (o : FOps) (agg : Nat) (xff : UInt32) (lay : List (Int × Nat)) :
    createHandle o agg xff lay = recreateHandle o agg xff lay [] := by
  unfold createHandle recreateHandle
  simp only [bind, Except.bind, List.take_nil, List.nil_append, List.length_nil, Nat.sub_zero]
  cases newHeader o agg xff lay with
  | error e => rfl
  | ok h => simp only []; cases writeAt _ 0 (encHeader h) <;> rfl

/-- what `Create` returns: the header of ⟦NewHeader⟧, a disk image of the final size that keeps
    what the old file held inside it, and a view that is the image with the header written over
    its start -/
theorem recreateHandle_ok_iff {old d : Bytes} {h : Handle} :
    recreateHandle o agg xff lay old = .ok (d, h) ↔
      newHeader o agg xff lay = .ok h.hdr ∧ (encHeader h.hdr).length ≤ h.hdr.expectedFileSize ∧
      d = old.take h.hdr.expectedFileSize ++ List.replicate (h.hdr.expectedFileSize - old.length) 0 ∧
      h.view = encHeader h.hdr ++ d.drop (encHeader h.hdr).length := by
  obtain ⟨hdr, view⟩ := h
  unfold recreateHandle
  cases newHeader o agg xff lay with
  | error e => simp
  | ok hd =>
    simp only [writeAt_zero, length_take_append_replicate]
    by_cases hl : hd.expectedFileSize < (encHeader hd).length
    · simp only [hl, if_true]
      refine ⟨(nomatch ·), ?_⟩
      rintro ⟨⟨⟩, h2, -⟩
      exact absurd h2 (Nat.not_le.2 hl)
    · simp only [hl, if_false, Except.ok.injEq, Prod.mk.injEq, Handle.mk.injEq]
      constructor
      · rintro ⟨rfl, rfl, rfl⟩; exact ⟨rfl, Nat.le_of_not_lt hl, rfl, rfl⟩
      · rintro ⟨rfl, -, rfl, rfl⟩; exact ⟨rfl, rfl, rfl⟩

theorem createHandle_ok_iff {d : Bytes} {h : Handle} :
    createHandle o agg xff lay = .ok (d, h) ↔
      newHeader o agg xff lay = .ok h.hdr ∧ (encHeader h.hdr).length ≤ h.hdr.expectedFileSize ∧
      d = List.replicate h.hdr.expectedFileSize 0 ∧
      h.view = encHeader h.hdr ++ List.replicate (h.hdr.expectedFileSize - (encHeader h.hdr).length) 0 := by
  rw [createHandle_eq, recreateHandle_ok_iff]
  simp only [List.take_nil, List.nil_append, List.length_nil, Nat.sub_zero]
  exact and_congr_right fun _ => and_congr_right fun _ => and_congr_right fun hd => by
    rw [hd, List.drop_replicate]

theorem recreateHandle_error {old : Bytes} {e : Fault} (h : recreateHandle o agg xff lay old = .error e) :
    ∃ k, e = .err k := by
  unfold recreateHandle at h
  cases hn : newHeader o agg xff lay with
  | error e' => rw [hn] at h; cases h; exact ⟨_, newHeader_error hn⟩
  | ok hd =>
    rw [hn] at h
    simp only [writeAt_zero] at h
    split at h
    · rename_i heq
      split at heq <;> cases heq
      cases h; exact ⟨_, rfl⟩
    · cases h

end Create

inductive World.Made (o : FOps) (w : World) : LibOp → Handle → Prop
  | create {op lay agg xff old d h'} : op = .create lay agg xff ∨ op = .createOver lay agg xff →
      recreateHandle o agg xff lay old = .ok (d, h') → Made o w op h'
  | open_ {d h'} : w.disk = some d → openBytes o d = .ok h' → Made o w .open_ h'
  | upd {h k t v now h'} : w.h = some h → h.updatePoint o k t v now = .ok h' → Made o w (.upd k t v now) h'
  | updMany {h k now pts h'} : w.h = some h → h.updateMany o pts k now = .ok h' → Made o w (.updMany k now pts) h'

inductive World.Failed (o : FOps) (w : World) : LibOp → Fault → Prop
  | create {op lay agg xff old e} : recreateHandle o agg xff lay old = .error e → Failed o w op e
  | open_ {op d e} : openBytes o d = .error e → Failed o w op e
  | upd {h k t v now e} : w.h = some h → h.updatePoint o k t v now = .error e → Failed o w (.upd k t v now) e
  | updMany {h k now pts e} : w.h = some h → h.updateMany o pts k now = .error e → Failed o w (.updMany k now pts) e

theorem World.step_inv (o : FOps) (w : World) (op : LibOp) :
    (∀ h', (w.step o op).1.h = some h' → w.h = some h' ∨ World.Made o w op h') ∧
    (∀ e, (w.step o op).2 = .fault e → World.Failed o w op e) := by
  cases op <;> simp only [World.step, World.createFresh, createHandle_eq]
  -- (`nofun` would match on the handle or fault as well as on the impossible equation: four times as dear)
  case create lay agg xff =>
    split
    · exact ⟨fun _ => (nomatch ·), fun _ => (nomatch ·)⟩
    · split
      · rename_i hc; exact ⟨fun _ hh => by cases hh; exact .inr (.create (.inl rfl) hc), fun _ => (nomatch ·)⟩
      · rename_i hc; exact ⟨fun _ hh => .inl hh, fun _ hf => by cases hf; exact .create hc⟩
  case createOver lay agg xff =>
    split
    · split
      · rename_i hc; exact ⟨fun _ hh => by cases hh; exact .inr (.create (.inr rfl) hc), fun _ => (nomatch ·)⟩
      · rename_i hc; exact ⟨fun _ hh => .inl hh, fun _ hf => by cases hf; exact .create hc⟩
    · split
      · rename_i hc; exact ⟨fun _ hh => by cases hh; exact .inr (.create (.inr rfl) hc), fun _ => (nomatch ·)⟩
      · rename_i hc; exact ⟨fun _ => (nomatch ·), fun _ hf => by cases hf; exact .create hc⟩
  case open_ =>
    split
    · exact ⟨fun _ => (nomatch ·), fun _ => (nomatch ·)⟩
    · rename_i hd
      split
      · rename_i ho; exact ⟨fun _ hh => by cases hh; exact .inr (.open_ hd ho), fun _ => (nomatch ·)⟩
      · rename_i ho; exact ⟨fun _ => (nomatch ·), fun _ hf => by cases hf; exact .open_ ho⟩
  case sync =>
    split
    · exact ⟨fun _ hh => .inl hh, fun _ => (nomatch ·)⟩
    · rename_i hw; exact ⟨fun _ hh => by cases hh; exact .inl hw, fun _ => (nomatch ·)⟩
  case upd k t v now =>
    split
    · exact ⟨fun _ hh => .inl hh, fun _ => (nomatch ·)⟩
    · rename_i hw
      split
      · rename_i hu; exact ⟨fun _ hh => by cases hh; exact .inr (.upd hw hu), fun _ => (nomatch ·)⟩
      · rename_i hu; exact ⟨fun _ hh => .inl hh, fun _ hf => by cases hf; exact .upd hw hu⟩
  case updMany k now pts =>
    split
    · exact ⟨fun _ hh => .inl hh, fun _ => (nomatch ·)⟩
    · rename_i hw
      split
      · rename_i hu; exact ⟨fun _ hh => by cases hh; exact .inr (.updMany hw hu), fun _ => (nomatch ·)⟩
      · rename_i hu; exact ⟨fun _ hh => .inl hh, fun _ hf => by cases hf; exact .updMany hw hu⟩
  all_goals exact ⟨fun _ => (nomatch ·), fun _ => (nomatch ·)⟩

end Wsp
