import Wsp.Model.Text
namespace Wsp

/-! The civil-calendar core of the timestamp round trip: `civilFromDays` (Hinnant's algorithm) inverts
    `daysNat` and yields a real date, by arithmetic, for every day number (`civilFromDays_spec`).
    Quotients by the large literals are found by rewriting (`div_mul_add`) and `omega` is kept to small contexts:
    both are dear to it. -/

/-- days from 0000-03-01 (Nat only; agrees with `daysFromCivil + 719468` for years ≥ 1 and days
    ≥ 1, `days_int_nat`) -/
def daysNat (y m d : Nat) : Nat :=
  let y := if m ≤ 2 then y - 1 else y
  let era := y / 400
  let yoe := y - era * 400
  let mp := if m > 2 then m - 3 else m + 9
  let doy := (153 * mp + 2) / 5 + d - 1
  let doe := yoe * 365 + yoe / 4 - yoe / 100 + doy
  era * 146097 + doe

/-- the last day number a uint32 timestamp reaches is 49710 -/
def lastDay : Nat := 49710

/-- what must hold of day `z` up to `lastDay` (beyond it `calOK` is true of anything): the date it
    prints as is a real date of the years 1970 … 9999 that parses back to `z` -/
def calOK (z : Nat) : Bool :=
  Nat.ble (lastDay + 1) z ||
  match civilFromDays z with
  | (y, m, d) =>
    Nat.beq (daysNat y m d) (z + 719468) && Nat.ble 1 m && Nat.ble m 12 && Nat.ble 1 d && Nat.ble d (daysIn y m) &&
    Nat.ble 1970 y && Nat.ble y 9999

theorem div_mul_add (m x y : Nat) (h : y < m) : (m * x + y) / m = x := by
  rw [Nat.mul_add_div (Nat.zero_lt_of_lt h), Nat.div_eq_of_lt h, Nat.add_zero]

/-- Year `k` of four-year cycle `q` of century `c` of a 400-year era is its year `y = 100 c + 4 q + k` (years
    starting on 1 March); day `d` of that year is day `36524 c + 1461 q + 365 k + d` of the era. -/
theorem cycle_doy (c q k d : Nat) (hq : q ≤ 24) (hk : k ≤ 3) :
    let y := 100 * c + 4 * q + k
    365 * y + y / 4 - y / 100 + d = 36524 * c + (1461 * q + (365 * k + d)) := by
  intro y
  have h100 : y / 100 = c := by
    rw [show y = 100 * c + (4 * q + k) from Nat.add_assoc ..]; exact div_mul_add _ _ _ (by omega)
  have h4 : y / 4 = 25 * c + q := by
    rw [show y = 4 * (25 * c + q) + k by omega]; exact div_mul_add _ _ _ (by omega)
  rw [h4, h100]
  clear h4 h100 hq hk
  omega

/-- The year `civilFromDays` estimates for day `n` of an era, day `d` of the era's year `100 c + 4 q + k`
    (the year's 366th only as the last day of a four-year cycle), is that year. -/
theorem cycle_year (c q k d : Nat) (hc : c ≤ 3) (hq : q ≤ 24) (hm : 1461 * q + (365 * k + d) < 36524) (hk : k ≤ 3)
    (hd : d ≤ 364 ∨ d = 365 ∧ k = 3) :
    let n := 36524 * c + (1461 * q + (365 * k + d))
    (n - n / 1460 + n / 36524 - n / 146096) / 365 = 100 * c + 4 * q + k := by
  intro n
  have h2 : n / 36524 = c := div_mul_add _ _ _ hm
  have h3 : n / 146096 = 0 := Nat.div_eq_of_lt (Nat.add_lt_add_of_le_of_lt (Nat.mul_le_mul_left 36524 hc) hm)
  clear hm
  -- `n / 1460` counts the leap days passed, and one more (s = 1) on the last days of a four-year cycle:
  -- never on the first day of a year, always on a 366th
  obtain ⟨s, hs⟩ : ∃ s, s = (24 * c + q + 365 * k + d) / 1460 := ⟨_, rfl⟩
  have h1 : n / 1460 = 25 * c + q + s := by
    rw [hs, show n = 1460 * (25 * c + q) + (24 * c + q + 365 * k + d) by clear h2 h3 hs; omega,
      Nat.mul_add_div (by decide)]
  rw [h3, Nat.sub_zero, h2, ← Nat.sub_add_comm (Nat.div_le_self ..), h1]
  clear h1 h2 h3
  have hs' : s ≤ d ∧ d < 365 + s := by omega
  clear hs hd hk hq hc
  obtain ⟨e, rfl⟩ := Nat.exists_eq_add_of_le hs'.1
  rw [show n + c = 365 * (100 * c + 4 * q + k) + e + (25 * c + q + s) by clear hs'; omega, Nat.add_sub_cancel]
  exact div_mul_add _ _ _ (by omega)

/-- The year-of-era estimate of `civilFromDays` is exact. -/
theorem yoe_spec (doe yoe doy : Nat) (h : doe < 146097)
    (hyoe : yoe = (doe - doe / 1460 + doe / 36524 - doe / 146096) / 365)
    (hdoy : doy = doe - (365 * yoe + yoe / 4 - yoe / 100)) :
    yoe < 400 ∧ 365 * yoe + yoe / 4 - yoe / 100 + doy = doe ∧ (doy ≤ 364 ∨ doy = 365 ∧ isLeap (yoe + 1)) := by
  subst hdoy hyoe
  -- the era's leap day (29 Feb of its 400th year) falls outside the decomposition below: there `c` would be 4
  by_cases hlast : doe = 146096
  · subst hlast; decide
  -- century `c`, four-year cycle `q` of the century, year `k` of the cycle, day `d` of the year
  obtain ⟨c, m, rfl, hm⟩ : ∃ c m, 36524 * c + m = doe ∧ m < 36524 :=
    ⟨_, _, Nat.div_add_mod doe 36524, Nat.mod_lt _ (by decide)⟩
  have hc : c ≤ 3 := by omega
  clear h hlast
  obtain ⟨q, r, rfl, hr⟩ : ∃ q r, 1461 * q + r = m ∧ r < 1461 := ⟨_, _, Nat.div_add_mod m 1461, Nat.mod_lt _ (by decide)⟩
  have hq : q ≤ 24 := by omega
  obtain ⟨k, d, rfl, hk, hd⟩ : ∃ k d, 365 * k + d = r ∧ k ≤ 3 ∧ (d ≤ 364 ∨ d = 365 ∧ k = 3) := by
    by_cases h : r = 1460
    · exact ⟨3, 365, h.symm, Nat.le_refl 3, .inr ⟨rfl, rfl⟩⟩
    · exact ⟨_, _, Nat.div_add_mod r 365, by omega, .inl (Nat.le_of_lt_succ (Nat.mod_lt _ (by decide)))⟩
  have hy : 100 * c + 4 * q + k < 400 := by omega
  rw [cycle_year c q k d hc hq hm hk hd, ← cycle_doy c q k d hq hk, Nat.add_sub_cancel_left]
  refine ⟨hy, rfl, ?_⟩
  rcases hd with hd | ⟨rfl, rfl⟩
  · exact .inl hd
  · -- the fourth year of a cycle ends in a leap February: no century year, since q ≠ 24
    refine .inr ⟨rfl, ?_⟩
    clear hy hr hc hq
    simp only [isLeap, Bool.and_eq_true, Bool.or_eq_true, decide_eq_true_eq, ne_eq]
    omega

/-- leap years recur with the era -/
theorem isLeap_add_era (y e : Nat) : isLeap (y + e * 400) = isLeap y := by
  have h4 : (y + e * 400) % 4 = y % 4 := by
    rw [show e * 400 = e * 100 * 4 from (Nat.mul_assoc e 100 4).symm, Nat.add_mul_mod_self_right]
  have h100 : (y + e * 400) % 100 = y % 100 := by
    rw [show e * 400 = e * 4 * 100 from (Nat.mul_assoc e 4 100).symm, Nat.add_mul_mod_self_right]
  simp only [isLeap, h4, h100, Nat.add_mul_mod_self_right]

/-- the length of the month with March-based number `mp` -/
theorem daysIn_of_mp (y mp : Nat) (h : mp ≤ 11) :
    daysIn (if (if mp < 10 then mp + 3 else mp - 9) ≤ 2 then y + 1 else y) (if mp < 10 then mp + 3 else mp - 9) =
      if mp = 11 then (if isLeap (y + 1) then 29 else 28) else (153 * (mp + 1) + 2) / 5 - (153 * mp + 2) / 5 := by
  rcases mp with _ | _ | _ | _ | _ | _ | _ | _ | _ | _ | _ | _ | mp
  iterate 12 rfl
  omega

theorem month_spec (doy mp : Nat) (h : doy ≤ 365) (hmp : mp = (5 * doy + 2) / 153) :
    mp ≤ 11 ∧ (153 * mp + 2) / 5 ≤ doy ∧ doy < (153 * (mp + 1) + 2) / 5 := by
  omega

/-- the civil date of day `d` of the month with March-based number `mp` in year `yoe` of era `era` (years
    starting on 1 March, so that January and February belong to the civil year after) -/
theorem daysNat_of_march (era yoe mp m d : Nat) (hy : yoe < 400) (h : mp ≤ 11)
    (hm : m = if mp < 10 then mp + 3 else mp - 9) :
    daysNat (if m ≤ 2 then yoe + era * 400 + 1 else yoe + era * 400) m d =
      era * 146097 + (yoe * 365 + yoe / 4 - yoe / 100 + ((153 * mp + 2) / 5 + d - 1)) ∧
    1 ≤ m ∧ m ≤ 12 ∧ (m ≤ 2 ↔ 10 ≤ mp) := by
  have hmp : (if m > 2 then m - 3 else m + 9) = mp ∧ 1 ≤ m ∧ m ≤ 12 ∧ (m ≤ 2 ↔ 10 ≤ mp) := by
    by_cases h10 : mp < 10
    · rw [if_pos h10] at hm; rw [if_pos (by omega)]; omega
    · rw [if_neg h10] at hm; rw [if_neg (by omega)]; omega
  have hY : (if m ≤ 2 then (if m ≤ 2 then yoe + era * 400 + 1 else yoe + era * 400) - 1 else
      if m ≤ 2 then yoe + era * 400 + 1 else yoe + era * 400) = yoe + era * 400 := by split <;> rfl
  simp only [daysNat, hY, hmp.1, Nat.add_mul_div_right _ _ (show 0 < 400 by decide), Nat.div_eq_of_lt hy, Nat.zero_add,
    Nat.add_sub_cancel, true_and]
  exact hmp.2

theorem daysIn_le (y m : Nat) : daysIn y m ≤ 31 := by
  unfold daysIn; split <;> (try split) <;> omega

/-- For every day number `civilFromDays` yields a real date that counts back to it; the days a uint32 timestamp
    reaches begin on day 306 (1 January 1970) of year 369 of era 4. -/
theorem civilFromDays_spec (z : Nat) :
    let c := civilFromDays z
    daysNat c.1 c.2.1 c.2.2 = z + 719468 ∧ 1 ≤ c.2.1 ∧ c.2.1 ≤ 12 ∧ 1 ≤ c.2.2 ∧ c.2.2 ≤ daysIn c.1 c.2.1 ∧
    (z ≤ lastDay → 1970 ≤ c.1 ∧ c.1 ≤ 9999) := by
  intro c
  -- the intermediate values of `civilFromDays` by name
  obtain ⟨era, hera⟩ : ∃ e, e = (z + 719468) / 146097 := ⟨_, rfl⟩
  obtain ⟨doe, hdoe⟩ : ∃ d, d = (z + 719468) - era * 146097 := ⟨_, rfl⟩
  obtain ⟨yoe, hyoe⟩ : ∃ y, y = (doe - doe / 1460 + doe / 36524 - doe / 146096) / 365 := ⟨_, rfl⟩
  obtain ⟨doy, hdoy⟩ : ∃ d, d = doe - (365 * yoe + yoe / 4 - yoe / 100) := ⟨_, rfl⟩
  obtain ⟨mp, hmp⟩ : ∃ m, m = (5 * doy + 2) / 153 := ⟨_, rfl⟩
  have hc : c = (if (if mp < 10 then mp + 3 else mp - 9) ≤ 2 then yoe + era * 400 + 1 else yoe + era * 400,
      if mp < 10 then mp + 3 else mp - 9, doy - (153 * mp + 2) / 5 + 1) := by
    simp only [c, civilFromDays, ← hera, ← hdoe, ← hyoe, ← hdoy, ← hmp]
  rw [hera, ← Nat.mod_eq_sub_div_mul] at hdoe
  have hZ : era * 146097 + doe = z + 719468 := by rw [hera, hdoe]; exact Nat.div_add_mod' ..
  have hdoe' : doe < 146097 := hdoe ▸ Nat.mod_lt _ (by decide)
  obtain ⟨hy400, hstart, hlen⟩ := yoe_spec doe yoe doy hdoe' hyoe hdoy
  clear hyoe hera hdoe hdoy
  have hdoy : doy ≤ 365 := hlen.elim Nat.le_succ_of_le fun h => Nat.le_of_eq h.1
  obtain ⟨hmp11, hmlo, hmhi⟩ := month_spec doy mp hdoy hmp
  obtain ⟨hdays, hm1, hm12, hm2⟩ := daysNat_of_march era yoe mp _ (doy - (153 * mp + 2) / 5 + 1) hy400 hmp11 rfl
  rw [hc]
  dsimp only
  clear hc
  refine ⟨?_, hm1, hm12, Nat.le_add_left .., ?_, fun hz => ?_⟩
  · rw [hdays, ← hZ, ← hstart, ← Nat.add_assoc _ _ 1, Nat.add_sub_cancel, Nat.add_sub_cancel' hmlo, Nat.mul_comm yoe]
  · rw [daysIn_of_mp _ _ hmp11, Nat.add_right_comm, isLeap_add_era]
    clear hdays hm1 hm12 hm2 hZ hstart hmp
    split
    · subst mp
      split
      · omega
      · have : doy ≤ 364 := hlen.resolve_right fun h => ‹¬_› h.2
        omega
    · omega
  · unfold lastDay at hz
    clear hdays hlen hmlo hmhi hm1 hm12 hmp11
    have he : 4 ≤ era ∧ era ≤ 5 ∧ (era = 4 → 135080 ≤ doe) := by clear hstart hmp; omega
    have h4 : era = 4 → 369 ≤ yoe ∧ (yoe = 369 → 10 ≤ mp) := fun h => by
      have := he.2.2 h; clear he hZ hz hdoe' h; omega
    clear hZ hz hdoe' hstart hmp hdoy
    by_cases h : (if mp < 10 then mp + 3 else mp - 9) ≤ 2
    · rw [if_pos h]; omega
    · rw [if_neg h]; omega

/-- every day of the uint32 range prints as a real date that parses back to it -/
theorem calOK_all (z : Nat) (hz : z < 53248) : calOK z = true := by
  -- `hz` is not needed: beyond `lastDay` the first disjunct holds
  unfold calOK
  by_cases h : lastDay + 1 ≤ z
  · rw [Nat.ble_eq_true_of_le h, Bool.true_or]
  · obtain ⟨h1, h2, h3, h4, h5, h6⟩ := civilFromDays_spec z
    have h7 := h6 (by omega)
    generalize civilFromDays z = c at h1 h2 h3 h4 h5 h7
    simp [h1, h2, h3, h4, h5, h7]

theorem days_int_nat (y m d : Nat) (hy : 1 ≤ y) (hd : 1 ≤ d) : daysFromCivil y m d = (daysNat y m d : Int) - 719468 := by
  -- the March-based year and month are the same numbers on both sides: name them, to be rid of the `if`s
  obtain ⟨Y, hY, hYi⟩ : ∃ Y : Nat, (if m ≤ 2 then y - 1 else y) = Y ∧ (if m ≤ 2 then (y : Int) - 1 else y) = (Y : Int) :=
    ⟨_, rfl, by split <;> omega⟩
  obtain ⟨mp, hmp, hmpi⟩ : ∃ mp : Nat, (if m > 2 then m - 3 else m + 9) = mp ∧
      (if m > 2 then (m : Int) - 3 else (m : Int) + 9) = (mp : Int) := ⟨_, rfl, by split <;> omega⟩
  simp only [daysFromCivil, daysNat, hY, hYi, hmp, hmpi, show (Y : Int) ≥ 0 by omega, if_true]
  -- no subtraction of naturals truncates here, so the cast to ℤ goes through every operation
  have h1 : Y / 400 * 400 ≤ Y := Nat.div_mul_le_self ..
  have h2 (r : Nat) : r / 100 ≤ r * 365 + r / 4 :=
    Nat.le_trans (Nat.div_le_self ..) (Nat.le_trans (Nat.le_mul_of_pos_right _ (by decide)) (Nat.le_add_right ..))
  have h3 : 1 ≤ (153 * mp + 2) / 5 + d := Nat.le_trans hd (Nat.le_add_left ..)
  simp only [Int.natCast_add, Int.natCast_mul, Int.natCast_ediv, Int.natCast_sub h1, Int.natCast_sub (h2 _),
    Int.natCast_sub h3, Int.cast_ofNat_Int]

/-- `civilFromDays_spec` with the day counted from 1970 by the model's `daysFromCivil` -/
theorem cal_facts (z : Nat) (hz : z ≤ lastDay) :
    let c := civilFromDays z
    daysFromCivil c.1 c.2.1 c.2.2 = (z : Int) ∧ 1 ≤ c.2.1 ∧ c.2.1 ≤ 12 ∧ 1 ≤ c.2.2 ∧ c.2.2 ≤ daysIn c.1 c.2.1 ∧
    1970 ≤ c.1 ∧ c.1 ≤ 9999 := by
  obtain ⟨h1, h2, h3, h4, h5, hy⟩ := civilFromDays_spec z
  obtain ⟨h6, h7⟩ := hy hz
  exact ⟨by rw [days_int_nat _ _ _ (by omega) h4, h1]; omega, h2, h3, h4, h5, h6, h7⟩

end Wsp
