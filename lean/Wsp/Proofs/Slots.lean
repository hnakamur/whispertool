import Wsp.Proofs.Ring
import Wsp.Proofs.OpenLemmas
namespace Wsp
open Handle C14

/-! R1/R3: a 12-byte write at a slot offset replaces exactly that slot. -/

def bytes12 (l : Bytes) (o : Nat) : Bytes := (l.drop o).take 12

theorem bytes12_take {l : Bytes} {E o : Nat} (ho : o + 12 ≤ E) : bytes12 (l.take E) o = bytes12 l o := by
  unfold bytes12
  rw [List.drop_take, List.take_take, Nat.min_eq_left (by omega)]

theorem bytes12_drop (l : Bytes) (D o : Nat) : bytes12 (l.drop D) o = bytes12 l (D + o) := by
  unfold bytes12
  rw [List.drop_drop]

theorem slot_of_bytes12 (h : Handle) (a : Arch) (i : Nat) :
    slotAt h a i = ⟨de32 (bytes12 h.view (a.offset + 12 * i)), de64 ((bytes12 h.view (a.offset + 12 * i)).drop 4)⟩ := by
  unfold slotAt bytes12
  rw [de32_take (by omega), de64_take12]

theorem slotAt_of_take {h h' : Handle} {E : Nat} (hf : h'.view.take E = h.view.take E) (b : Arch) (j : Nat)
    (hb : b.offset + 12 * j + 12 ≤ E) : slotAt h' b j = slotAt h b j := by
  rw [slot_of_bytes12, slot_of_bytes12, ← bytes12_take hb, hf, bytes12_take hb]

/-- **R3 (write frame)**: `putPointAt` at the offset of slot `i` of archive `a` makes that
    slot hold the point and leaves every slot at a disjoint offset — the other slots of
    `a` and all slots of every other archive — as it was. -/
theorem putPointAt_slots (h h' : Handle) (p : Point) (hpt : p.t < 4294967296) (a : Arch) (i : Nat)
    (hput : h.putPointAt p (a.offset + 12 * i) = .ok h') :
    slotAt h' a i = p ∧
    (∀ (b : Arch) (j : Nat), (b.offset + 12 * j + 12 ≤ a.offset + 12 * i ∨ a.offset + 12 * i + 12 ≤ b.offset + 12 * j) →
      slotAt h' b j = slotAt h b j) ∧ h'.hdr = h.hdr := by
  obtain ⟨hh, -, ht, hm, hd⟩ := putPointAt_parts hput
  refine ⟨?_, ?_, hh⟩
  · -- the slot read back is the decoding of the twelve bytes written
    have := fixedDec_ok_iff.1 (decPoint_fixed ▸ roundtrip_point p hpt [])
    rw [List.append_nil] at this
    rw [slot_of_bytes12, show bytes12 h'.view (a.offset + 12 * i) = encPoint p from hm]
    exact this.2.1
  · intro b j hdj
    rcases hdj with h1 | h1
    · exact slotAt_of_take ht b j h1
    · rw [slot_of_bytes12, slot_of_bytes12]
      obtain ⟨d, e⟩ := Nat.le.dest h1
      rw [← e, ← bytes12_drop, hd, bytes12_drop]

/-- distinct slots of one archive do not overlap -/
theorem slots_apart (o : Nat) {i j : Nat} (h : j ≠ i) :
    o + 12 * j + 12 ≤ o + 12 * i ∨ o + 12 * i + 12 ≤ o + 12 * j := by
  omega

theorem baseInterval_slot {h : Handle} {a : Arch} (hb : a.offset + 12 ≤ h.view.length) :
    h.baseInterval a = .ok (slotAt h a 0).t := by
  unfold baseInterval readAt
  have : ¬ (a.offset + 4 > h.view.length) := by omega
  simp only [this, if_false]
  unfold slotAt
  simp only [Nat.mul_zero, Nat.add_zero]
  rw [de32_take (by omega)]

end Wsp
