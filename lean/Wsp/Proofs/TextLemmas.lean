import Wsp.Model.Text
namespace Wsp

/-! Decimal text for C19: `showNat` prints digits that `valOf` reads back, `leadingInt` and the fixed-width
    `takeDigits` stop at the first non-digit, and so `parseCivil` reads back the timestamp layout (`parseCivil_layout`). -/

/-- value of a digit string read left to right, starting from `x` -/
def valOf (x : Nat) (ds : Str) : Nat := ds.foldl (fun acc c => acc * 10 + digitVal c) x

theorem valOf_cons (x : Nat) (c : Char) (ds : Str) : valOf x (c :: ds) = valOf (x * 10 + digitVal c) ds := by
  simp only [valOf, List.foldl_cons]

theorem digit_facts : ∀ k, k < 10 → digitVal (digitChar k) = k ∧ isDigit (digitChar k) = true := by
  decide

theorem valOf_eq (x : Nat) (ds : Str) : valOf x ds = x * 10 ^ ds.length + valOf 0 ds := by
  induction ds generalizing x with
  | nil => simp [valOf]
  | cons c ds ih =>
    rw [valOf_cons, valOf_cons, ih, ih (0 * 10 + digitVal c), List.length_cons, Nat.pow_succ]
    simp only [Nat.zero_mul, Nat.zero_add, Nat.add_mul, Nat.add_assoc, Nat.mul_assoc, Nat.mul_comm 10]

theorem valOf_ge (x : Nat) (ds : Str) : x ≤ valOf x ds := by
  rw [valOf_eq]
  exact Nat.le_trans (Nat.le_mul_of_pos_right x (Nat.pow_pos (by omega))) (Nat.le_add_right _ _)

theorem valOf_append (x : Nat) (a b : Str) : valOf x (a ++ b) = valOf (valOf x a) b := by
  simp [valOf, List.foldl_append]

theorem showNat_digits (n : Nat) : ∀ c ∈ showNat n, isDigit c = true := by
  fun_induction showNat n with
  | case1 n h => simpa using (digit_facts n h).2
  | case2 n h ih =>
    simp only [List.mem_append, List.mem_singleton]
    rintro c (hc | rfl)
    · exact ih c hc
    · exact (digit_facts (n % 10) (by omega)).2

theorem valOf_showNat (n : Nat) : valOf 0 (showNat n) = n := by
  fun_induction showNat n with
  | case1 n h => simp [valOf, (digit_facts n h).1]
  | case2 n h ih =>
    rw [valOf_append, ih]
    simp [valOf, (digit_facts (n % 10) (by omega)).1]
    omega

theorem showNat_zero : showNat 0 = ['0'] := by
  rw [showNat]; simp [digitChar]

/-- `rest` does not continue the number -/
def StopsNumber (rest : Str) : Prop := ∀ c r, rest = c :: r → isDigit c = false

theorem stops_cons (c : Char) (s : Str) (hc : isDigit c = false) : StopsNumber (c :: s) := by
  rintro _ _ ⟨⟩; exact hc

theorem digitVal_lt (c : Char) (hc : isDigit c = true) : digitVal c < 10 := by
  simp [isDigit] at hc
  have h2 : c.toNat ≤ 57 := hc.2
  unfold digitVal; omega

theorem exists_digits_prefix (s : Str) : ∃ ds rest, s = ds ++ rest ∧ (∀ c ∈ ds, isDigit c = true) ∧ StopsNumber rest := by
  induction s with
  | nil => exact ⟨[], [], rfl, by simp, fun c r h => by cases h⟩
  | cons x xs ih =>
    by_cases hx : isDigit x = true
    · obtain ⟨ds, rest, rfl, hd, hr⟩ := ih
      exact ⟨x :: ds, rest, rfl, by simpa [hx] using hd, hr⟩
    · exact ⟨[], x :: xs, rfl, by simp, stops_cons x xs (by simpa using hx)⟩

/-- **the digit loop of ⟦leadingInt⟧**: it reads the whole run of digits, and fails exactly when
    their value does not fit in int32 -/
theorem leadingIntLoop_append (ds rest : Str) (x i : Nat) (hd : ∀ c ∈ ds, isDigit c = true)
    (hr : StopsNumber rest) (hx : x ≤ 2147483647) :
    leadingIntLoop (x : Int) i (ds ++ rest) =
      if valOf x ds ≤ 2147483647 then some (((valOf x ds : Nat) : Int), i + ds.length, rest) else none := by
  induction ds generalizing x i with
  | nil =>
    cases rest with
    | nil => simp [leadingIntLoop, valOf, hx]
    | cons c r => simp [leadingIntLoop, valOf, hr c r rfl, hx]
  | cons c ds ih =>
    have hc : isDigit c = true := hd c (by simp)
    have hdv := digitVal_lt c hc
    rw [valOf_cons]
    simp only [List.cons_append, leadingIntLoop, hc, Bool.not_true, Bool.false_eq_true, if_false]
    by_cases hfit : x * 10 + digitVal c ≤ 2147483647
    · have h32 : i32 ((x : Int) * 10 + (digitVal c : Int)) = ((x * 10 + digitVal c : Nat) : Int) := by
        unfold i32; omega
      rw [if_neg (by omega), h32, if_neg (Int.not_lt.2 (Int.natCast_nonneg _)),
        ih _ _ (fun c' h' => hd c' (by simp [h'])) hfit]
      simp only [List.length_cons, Nat.add_assoc, Nat.add_comm 1]
    · -- too large already: the first test refuses `x ≥ 214748365`, and below that `10 x + d < 2^32` wraps to a negative int32
      have hge := valOf_ge (x * 10 + digitVal c) ds
      rw [if_neg (by omega : ¬ valOf (x * 10 + digitVal c) ds ≤ 2147483647)]
      by_cases hbig : (x : Int) > 214748364
      · rw [if_pos hbig]
      · rw [if_neg hbig, if_pos (by unfold i32; omega)]

/-- ⟦leadingInt⟧ on a run of digits: the value, unless it overflows, or is 0 written with no digit or with several -/
theorem leadingInt_append (ds rest : Str) (hd : ∀ c ∈ ds, isDigit c = true) (hr : StopsNumber rest) :
    leadingInt (ds ++ rest) =
      if valOf 0 ds ≤ 2147483647 ∧ ¬ (valOf 0 ds = 0 ∧ ds.length ≠ 1) then some (((valOf 0 ds : Nat) : Int), rest)
      else none := by
  have := leadingIntLoop_append ds rest 0 0 hd hr (by omega)
  simp only [Int.natCast_zero] at this
  unfold leadingInt
  rw [this]
  by_cases h1 : valOf 0 ds ≤ 2147483647
  · by_cases h2 : valOf 0 ds = 0 ∧ ds.length ≠ 1 <;> simp [h1, h2]
  · simp [h1]

theorem takeDigits_digits (ds rest : Str) (hd : ∀ c ∈ ds, isDigit c = true) :
    takeDigits ds.length (ds ++ rest) = some (valOf 0 ds, rest) := by
  induction ds with
  | nil => rfl
  | cons c ds ih =>
    have hc := hd c (by simp)
    simp only [List.length_cons, List.cons_append, takeDigits, hc, if_true,
      ih (fun c' h => hd c' (by simp [h]))]
    rw [valOf_cons, valOf_eq (0 * 10 + digitVal c)]
    simp

theorem showNat_length_le (k n : Nat) (hk : 0 < k) (h : n < 10 ^ k) : (showNat n).length ≤ k := by
  induction k generalizing n with
  | zero => omega
  | succ k ih =>
    rw [showNat]
    split
    · simp
    · have hk' : 0 < k := Nat.pos_of_ne_zero (by rintro rfl; omega)
      have := ih (n / 10) hk' (by rw [Nat.pow_succ] at h; omega)
      simp; omega

theorem valOf_zeros (j : Nat) : valOf 0 (List.replicate j '0') = 0 := by
  induction j with
  | zero => rfl
  | succ j ih => rw [List.replicate_succ, valOf_cons]; exact ih

/-- `%0kd` of a number below `10^k` is `k` digits with that value -/
theorem pad_showNat (k n : Nat) (hk : 0 < k) (h : n < 10 ^ k) :
    (pad k (showNat n)).length = k ∧ (∀ c ∈ pad k (showNat n), isDigit c = true) ∧
      valOf 0 (pad k (showNat n)) = n := by
  have hl := showNat_length_le k n hk h
  unfold pad
  refine ⟨by simp; omega, ?_, by rw [valOf_append, valOf_zeros, valOf_showNat]⟩
  intro c hc
  rcases List.mem_append.1 hc with hc | hc
  · rw [(List.mem_replicate.1 hc).2]; rfl
  · exact showNat_digits n c hc

theorem takeDigits_pad (k n : Nat) (rest : Str) (hk : 0 < k) (h : n < 10 ^ k) :
    takeDigits k (pad k (showNat n) ++ rest) = some (n, rest) := by
  obtain ⟨hl, hd, hv⟩ := pad_showNat k n hk h
  have := takeDigits_digits (pad k (showNat n)) rest hd
  rwa [hl, hv] at this

/-- on two digits Go's `getnum` is the two-digit field -/
theorem takeNum12_pad (n : Nat) (rest : Str) (h : n < 100) :
    takeNum12 (pad 2 (showNat n) ++ rest) = some (n, rest) := by
  obtain ⟨hl, hd, hv⟩ := pad_showNat 2 n (by omega) h
  match hp : pad 2 (showNat n), hl with
  | [a, b], _ =>
    rw [hp] at hd hv
    simp only [List.cons_append, List.nil_append, takeNum12, hd a (by simp), hd b (by simp), if_true]
    rw [← hv]; simp [valOf]

theorem expect_cons (c : Char) (s : Str) : expect c (c :: s) = some s := by simp [expect]

theorem splitAt1_eq_some_iff (c : Char) (s a b : Str) :
    splitAt1 c s = some (a, b) ↔ s = a ++ c :: b ∧ c ∉ a := by
  constructor
  · intro h
    induction s generalizing a with
    | nil => cases h
    | cons x xs ih =>
      simp only [splitAt1] at h
      split at h
      · cases h; exact ⟨by simp [*], by simp⟩
      · rename_i hx
        split at h
        · cases h
        · rename_i a' b' hs
          cases h
          obtain ⟨rfl, hn⟩ := ih a' hs
          exact ⟨rfl, by simp [hn, Ne.symm hx]⟩
  · rintro ⟨rfl, hn⟩
    induction a with
    | nil => simp [splitAt1]
    | cons x a ih =>
      rw [List.mem_cons, not_or] at hn
      simp only [List.cons_append, splitAt1, if_neg (Ne.symm hn.1), ih hn.2]

theorem splitAt1_eq_none_iff (c : Char) (s : Str) : splitAt1 c s = none ↔ c ∉ s := by
  induction s with
  | nil => simp [splitAt1]
  | cons x xs ih =>
    simp only [splitAt1]
    by_cases hx : x = c
    · simp [hx]
    · rw [if_neg hx, List.mem_cons, not_or, ← ih]
      cases splitAt1 c xs <;> simp [Ne.symm hx]

/-- a step of a `do` block in `Option` whose outcome is known -/
theorem bind_of_eq_some {α β : Type} {x : Option α} {a : α} (h : x = some a) (f : α → Option β) : x >>= f = f a := by
  rw [h]; rfl

/-- the fixed layout, field by field: what `%04d-%02d-%02dT%02d:%02d:%02dZ` prints is read back,
    whatever the six numbers are (only the range test looks at them) -/
theorem parseCivil_layout (y m d hh mm ss : Nat) (hy : y < 10000) (hm : m < 100) (hd : d < 100)
    (hhh : hh < 100) (hmm : mm < 100) (hss : ss < 100) :
    parseCivil (pad 4 (showNat y) ++ ['-'] ++ pad 2 (showNat m) ++ ['-'] ++ pad 2 (showNat d) ++ ['T'] ++
      pad 2 (showNat hh) ++ [':'] ++ pad 2 (showNat mm) ++ [':'] ++ pad 2 (showNat ss) ++ ['Z']) =
    if m < 1 ∨ m > 12 ∨ d < 1 ∨ d > daysIn y m ∨ hh ≥ 24 ∨ mm ≥ 60 ∨ ss ≥ 60 then none
    else some (daysFromCivil y m d * 86400 + (hh * 3600 + mm * 60 + ss : Nat)) := by
  simp only [List.append_assoc, List.cons_append, List.nil_append]
  -- `↓`: each field is read off the front before `simp` looks into the rest of the `do` block; left to descend
  -- into it first, it does work quadratic in the number of fields
  simp only [parseCivil,
    ↓bind_of_eq_some (takeDigits_pad 4 y _ (by decide) hy), ↓bind_of_eq_some (takeDigits_pad 2 _ _ (by decide) hm),
    ↓bind_of_eq_some (takeDigits_pad 2 _ _ (by decide) hd), ↓bind_of_eq_some (takeNum12_pad _ _ hhh),
    ↓bind_of_eq_some (takeDigits_pad 2 _ _ (by decide) hmm), ↓bind_of_eq_some (takeDigits_pad 2 _ _ (by decide) hss),
    ↓bind_of_eq_some (expect_cons _ _), skipFraction, ne_eq, if_false, Option.pure_def, Option.bind_eq_bind,
    Option.bind_none, expect_cons, Option.bind_some, List.length_nil, not_true_eq_false]

end Wsp
