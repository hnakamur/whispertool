import Wsp.Proofs.ValidateLemmas
import Wsp.Model.Whisper
namespace Wsp
variable {a : Arch}

/-! Inside the zone of DESIGN §3.2 every wrapped operation equals the ideal one. -/

theorem floorMod_pos (x y : Int) (hy : 0 < y) : floorMod x y = x % y := by
  unfold floorMod
  have h1 := Int.emod_nonneg x (Int.ne_of_gt hy)
  have h2 := Int.emod_lt_of_pos x hy
  have hna : (y.natAbs : Int) = y := Int.natAbs_of_nonneg (Int.le_of_lt hy)
  rw [Int.tmod_eq_emod]
  by_cases hc : 0 ≤ x ∨ y ∣ x
  · simp only [if_pos hc, Int.natCast_zero, Int.sub_zero]
    rw [if_pos (hc.elim (fun h => Or.inr (Or.inl ⟨h, hy⟩)) fun h => Or.inl (Int.emod_eq_zero_of_dvd h))]
  · simp only [if_neg hc, hna]
    rw [if_neg (by have := not_or.1 hc; omega)]
    omega

/-- uint32 division of in-range operands is the ideal one (the point count of a never-written archive) -/
theorem u32_div_ideal (x s : Int) (hx0 : 0 ≤ x) (hx : x < 4294967296) (hs : 0 < s) (hsl : s < 4294967296) :
    ((u32 x / u32 s : Nat) : Int) = x / s := by
  rw [Int.natCast_ediv, u32_id x hx0 hx, u32_id s (by omega) hsl]

theorem tsSub_ideal (t u : Nat) (ht : t < 2147483648) (hu : u < 2147483648) :
    tsSub t u = (t : Int) - (u : Int) := by
  unfold tsSub; exact i32_id _ (by omega) (by omega)

theorem tsAdd_ideal (t : Nat) (d : Int) (h0 : 0 ≤ (t : Int) + d) (h1 : (t : Int) + d < 4294967296) :
    (tsAdd t d : Int) = (t : Int) + d := by
  unfold tsAdd; exact u32_id _ h0 h1

/-- **the slot index, ideally**: for `K` on the grid of `B`, `q` steps away, both below
    2^31, ⟦pointIndex⟧ is `q mod N` -/
theorem pointIndex_of_mul (hs : 0 < a.step) (hn : 0 < a.n) {B K : Nat} (hB : B < 2147483648)
    (hK : K < 2147483648) {q : Int} (hq : (K : Int) - B = a.step * q) :
    a.pointIndex B K = q % (a.n : Int) := by
  unfold Arch.pointIndex
  rw [tsSub_ideal K B hK hB, hq, Int.tdiv_eq_ediv_of_dvd (Int.dvd_mul_right _ _),
    Int.mul_ediv_cancel_left _ (by omega), floorMod_pos _ _ (by omega)]

theorem pointIndex_ideal (hs : 0 < a.step) (hn : 0 < a.n) {B K : Nat} (hB : B < 2147483648)
    (hK : K < 2147483648) (hal : a.step ∣ ((K : Int) - B)) :
    a.pointIndex B K = (((K : Int) - B) / a.step) % (a.n : Int) := by
  obtain ⟨q, hq⟩ := hal
  rw [pointIndex_of_mul hs hn hB hK hq, hq, Int.mul_ediv_cancel_left _ (by omega)]

theorem tsAdd_nat (t s : Nat) (h : t + s < 4294967296) : tsAdd t (s : Int) = t + s := by
  have := tsAdd_ideal t (s : Int) (by omega) (by omega)
  omega

/-- the `i`-th instant of a series from `f`, cast: the arithmetic of windows is done in `Int` -/
theorem window_cast (hs : 0 < a.step) (f i : Nat) :
    ((f + a.step.toNat * i : Nat) : Int) = f + a.step * i := by
  rw [Int.natCast_add, Int.natCast_mul, Int.toNat_of_nonneg (Int.le_of_lt hs)]

/-- outside the zone, early side: the cut-off `now − ret` of a clock that has not yet reached
    the retention wraps around in uint32 (⟦Timestamp.Add⟧) to a time after the clock -/
theorem C03.tsAdd_early (now : Nat) (ret : Int) (h0 : 0 < ret) (h1 : ret ≤ 4294967296)
    (hclock : (now : Int) < ret) :
    (tsAdd now (- ret) : Int) = 4294967296 + (now : Int) - ret := by
  -- `now - ret` is negative by at most one period: adding 2^32 puts it in range
  have h : 0 ≤ (now : Int) + -ret + 4294967296 ∧ (now : Int) + -ret + 4294967296 < 4294967296 := by omega
  unfold tsAdd u32
  rw [← Int.add_emod_right, Int.emod_eq_of_lt h.1 h.2, Int.toNat_of_nonneg h.1]
  omega

def alignDown (t : Nat) (s : Int) : Int := (t : Int) - (t : Int) % s

theorem alignDown_bounds (t : Nat) {s : Int} (hs : 0 < s) : alignDown t s ≤ t ∧ (t : Int) - s < alignDown t s ∧ 0 ≤ alignDown t s := by
  unfold alignDown
  have h1 := Int.emod_nonneg (t : Int) (by omega : s ≠ 0)
  have h2 := Int.emod_lt_of_pos (t : Int) hs
  have h3 := Int.emod_add_mul_ediv (t : Int) s
  have h4 : 0 ≤ (t : Int) / s := Int.ediv_nonneg (by omega) (by omega)
  have h5 : 0 ≤ s * ((t : Int) / s) := Int.mul_nonneg (by omega) h4
  omega

theorem alignDown_dvd (t : Nat) (s : Int) : s ∣ alignDown t s := Int.dvd_self_sub_emod

theorem intervalForWrite_ideal (t : Nat) (hs : 0 < a.step) (ht : t < 4294967296) :
    (a.intervalForWrite t : Int) = alignDown t a.step := by
  unfold Arch.intervalForWrite
  rw [floorMod_pos _ _ hs]
  have := alignDown_bounds t hs
  unfold alignDown at this ⊢
  exact u32_id _ (by omega) (by omega)

theorem C02S.ifw_contains (hs : 0 < a.step) {t : Nat} (ht : t < 4294967296) :
    a.step ∣ (a.intervalForWrite t : Int) ∧ a.intervalForWrite t ≤ t ∧ (t : Int) < a.intervalForWrite t + a.step := by
  have hid := intervalForWrite_ideal t hs ht
  have := alignDown_bounds t hs
  exact ⟨hid ▸ alignDown_dvd t a.step, by omega, by omega⟩

theorem interval_ideal (t : Nat) (hs : 0 < a.step) (hsl : a.step < 2147483648) (ht : t < 2147483648) :
    (a.interval t : Int) = alignDown t a.step + a.step := by
  unfold Arch.interval
  rw [floorMod_pos _ _ hs]
  have := alignDown_bounds t hs
  unfold alignDown at this ⊢
  exact u32_id _ (by omega) (by omega)

/-- the time of position `j` of a series from `f` with step `S`, as Go computes it -/
theorem tsAdd_i32_mul (f j S : Nat) (h : f + S * j < 2147483648) :
    tsAdd f (i32 ((j : Int) * (S : Int))) = f + S * j := by
  have e : (j : Int) * (S : Int) = ((S * j : Nat) : Int) := by push_cast; exact Int.mul_comm _ _
  rw [e, i32_id _ (by omega) (by omega)]
  exact tsAdd_nat f (S * j) (by omega)

/-- ⟦findBestArchive⟧ in closed form: the first archive whose retention reaches back `diff`,
    else the last one -/
theorem findBestFrom_eq (diff : Int) (i : Nat) {as : List Arch} (hne : as ≠ []) :
    Handle.findBestFrom diff i as = i + min (as.findIdx fun a => a.maxRetention ≥ diff) (as.length - 1) := by
  induction as generalizing i with
  | nil => exact absurd rfl hne
  | cons a rest ih =>
    unfold Handle.findBestFrom
    rw [List.findIdx_cons]
    by_cases hge : a.maxRetention ≥ diff
    · simp [hge]
    · cases rest with
      | nil => simp [hge]
      | cons b rest' =>
        simp only [hge, if_false, decide_false, cond_false, ih (i + 1) (by simp), List.length_cons]
        rw [Nat.add_sub_cancel, Nat.add_sub_cancel, Nat.add_min_add_right, Nat.add_assoc, Nat.add_comm 1]

theorem findBestFrom_lt (diff : Int) (i : Nat) {as : List Arch} (hne : as ≠ []) :
    Handle.findBestFrom diff i as < i + as.length := by
  have := List.length_pos_iff.2 hne
  rw [findBestFrom_eq diff i hne]
  omega

end Wsp
