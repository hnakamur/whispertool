import Wsp.Model.Whisper
namespace Wsp
open Handle

/-! Lists: the stable sort of a batch, and how ⟦extractPoints⟧ splits a sorted batch. -/

def SortedByT : List Point → Prop
  | [] => True
  | [_] => True
  | p :: q :: rest => p.t ≤ q.t ∧ SortedByT (q :: rest)

theorem sortedByT_iff {l : List Point} : SortedByT l ↔ l.Pairwise (fun p q => p.t ≤ q.t) := by
  induction l with
  | nil => simp [SortedByT]
  | cons p l ih =>
    cases l with
    | nil => simp [SortedByT]
    | cons q r =>
      rw [SortedByT, ih, List.pairwise_cons (a := p)]
      refine ⟨fun ⟨hpq, hs⟩ => ⟨fun x hx => ?_, hs⟩, fun ⟨hall, hs⟩ => ⟨hall q List.mem_cons_self, hs⟩⟩
      rcases List.mem_cons.1 hx with rfl | hx
      · exact hpq
      · exact Nat.le_trans hpq (List.rel_of_pairwise_cons hs hx)

theorem SortedByT.tail {p : Point} {ps : List Point} (h : SortedByT (p :: ps)) : SortedByT ps :=
  sortedByT_iff.2 (sortedByT_iff.1 h).of_cons

theorem SortedByT.head_le {p : Point} {ps : List Point} (h : SortedByT (p :: ps)) : ∀ q ∈ p :: ps, p.t ≤ q.t := by
  intro q hq
  rcases List.mem_cons.1 hq with rfl | hq
  · exact Nat.le_refl _
  · exact List.rel_of_pairwise_cons (sortedByT_iff.1 h) hq

theorem SortedByT.filter {l : List Point} (q : Point → Bool) (h : SortedByT l) : SortedByT (l.filter q) :=
  sortedByT_iff.2 ((sortedByT_iff.1 h).filter q)

theorem SortedByT.cons {p : Point} {l : List Point} (hp : ∀ x ∈ l, p.t ≤ x.t) (h : SortedByT l) : SortedByT (p :: l) :=
  sortedByT_iff.2 (List.Pairwise.cons hp (sortedByT_iff.1 h))

theorem insertByTime_perm (p : Point) (l : List Point) : (insertByTime p l).Perm (p :: l) := by
  induction l with
  | nil => simp [insertByTime]
  | cons q qs ih =>
    unfold insertByTime
    split
    · exact List.Perm.refl _
    · exact (List.Perm.cons q ih).trans (List.Perm.swap p q qs)

theorem insertByTime_sorted (p : Point) (l : List Point) (h : SortedByT l) : SortedByT (insertByTime p l) := by
  induction l with
  | nil => trivial
  | cons q qs ih =>
    unfold insertByTime
    split
    · rename_i hlt
      exact h.cons fun x hx => Nat.le_trans (Nat.le_of_lt hlt) (h.head_le x hx)
    · rename_i hge
      refine (ih h.tail).cons fun x hx => ?_
      rcases List.mem_cons.1 ((insertByTime_perm p qs).mem_iff.1 hx) with rfl | hx
      · exact Nat.le_of_not_lt hge
      · exact h.head_le x (List.mem_cons_of_mem _ hx)

/-- stability: points with the same time keep their relative order -/
theorem insertByTime_filter (p : Point) (l : List Point) (t : Nat) (h : SortedByT l) :
    (insertByTime p l).filter (fun q => q.t = t) =
      if p.t = t then l.filter (fun q => q.t = t) ++ [p] else l.filter (fun q => q.t = t) := by
  induction l with
  | nil => by_cases hp : p.t = t <;> simp [insertByTime, hp]
  | cons q qs ih =>
    unfold insertByTime
    split
    · rename_i hlt
      by_cases hp : p.t = t
      · -- every element of q :: qs is later than p: none has time p.t
        have hnone : (q :: qs).filter (fun x => x.t = t) = [] :=
          List.filter_eq_nil_iff.2 fun x hx => by have := h.head_le x hx; simp; omega
        simp [hp, hnone]
      · simp [hp]
    · rw [List.filter_cons, List.filter_cons, ih h.tail]
      by_cases hq : q.t = t <;> by_cases hp : p.t = t <;> simp [hq, hp]

/-- the three facts about ⟦sort.Stable⟧ as modelled, through its fold -/
theorem foldl_insertByTime (ps : List Point) : ∀ acc, SortedByT acc →
    let r := ps.foldl (fun acc p => insertByTime p acc) acc
    r.Perm (acc ++ ps) ∧ SortedByT r ∧
    ∀ t, r.filter (fun q => q.t = t) = acc.filter (fun q => q.t = t) ++ ps.filter (fun q => q.t = t) := by
  induction ps with
  | nil => intro acc h; exact ⟨by simp, h, by simp⟩
  | cons p ps ih =>
    intro acc h
    obtain ⟨h1, h2, h3⟩ := ih _ (insertByTime_sorted p acc h)
    refine ⟨h1.trans (((insertByTime_perm p acc).append_right ps).trans List.perm_middle.symm), h2, fun t => ?_⟩
    rw [List.foldl_cons, h3 t, insertByTime_filter p acc t h, List.filter_cons]
    by_cases hp : p.t = t <;> simp [hp]

theorem sortByTime_perm (ps : List Point) : (sortByTime ps).Perm ps := by
  simpa [sortByTime] using (foldl_insertByTime ps [] trivial).1

theorem sortByTime_sorted (ps : List Point) : SortedByT (sortByTime ps) :=
  (foldl_insertByTime ps [] trivial).2.1

theorem sortByTime_stable (ps : List Point) (t : Nat) :
    (sortByTime ps).filter (fun q => q.t = t) = ps.filter (fun q => q.t = t) := by
  simpa [sortByTime] using (foldl_insertByTime ps [] trivial).2.2 t

/-- where `q` can only switch off along the list, the prefix on which it holds and the rest are the two filters -/
theorem takeWhile_dropWhile_eq_filter {α} (q : α → Bool) : ∀ (l : List α),
    l.Pairwise (fun a b => q b = true → q a = true) →
    l.takeWhile q = l.filter q ∧ l.dropWhile q = l.filter (fun x => !q x)
  | [], _ => ⟨rfl, rfl⟩
  | a :: l, h => by
    obtain ⟨ha, hl⟩ := List.pairwise_cons.1 h
    obtain ⟨i1, i2⟩ := takeWhile_dropWhile_eq_filter q l hl
    by_cases hq : q a = true
    · simp [hq, i1, i2]
    · have hall : ∀ b ∈ l, ¬ q b = true := fun b hb hqb => hq (ha b hb hqb)
      have e1 : l.filter q = [] := List.filter_eq_nil_iff.2 hall
      have e2 : l.filter (fun x => !q x) = l := List.filter_eq_self.2 fun b hb => by simpa using hall b hb
      simp [hq, e1, e2]

/-- ⟦extractPoints⟧ without its special case (all points young), for any list: the run of young
    points at the end, and what precedes it -/
theorem extractPoints_eq (ps : List Point) (now : Nat) (ret : Int) :
    extractPoints ps now ret =
      ((ps.reverse.takeWhile fun p => decide (¬ p.t ≤ tsAdd now (- ret))).reverse,
       (ps.reverse.dropWhile fun p => decide (¬ p.t ≤ tsAdd now (- ret))).reverse) := by
  unfold extractPoints
  dsimp only
  have hsplit := List.takeWhile_append_dropWhile (p := fun p : Point => decide (¬ p.t ≤ tsAdd now (- ret)))
    (l := ps.reverse)
  -- of the two halves only their concatenation matters
  generalize ps.reverse.takeWhile _ = cur at hsplit ⊢
  generalize ps.reverse.dropWhile _ = old at hsplit ⊢
  rw [← hsplit, List.drop_left' rfl]
  split
  · rename_i hlen
    have hl := congrArg List.length hsplit
    simp only [List.length_append, List.length_reverse] at hl
    obtain rfl : old = [] := List.eq_nil_of_length_eq_zero (by omega)
    rw [← List.reverse_reverse ps, ← hsplit]; simp
  · rfl

/-- ⟦extractPoints⟧ on a time-sorted batch: exactly the points younger than the retention
    are current, in order; the others remain, in order -/
theorem extractPoints_sorted (ps : List Point) (now : Nat) (ret : Int) (hs : SortedByT ps) :
    extractPoints ps now ret =
      (ps.filter (fun p => decide (tsAdd now (- ret) < p.t)), ps.filter (fun p => decide (p.t ≤ tsAdd now (- ret)))) := by
  rw [extractPoints_eq]
  generalize tsAdd now (- ret) = maxAge
  -- scanning the reversed list, "younger than `maxAge`" can only switch off
  have hmono : ps.reverse.Pairwise (fun a b => decide (¬ b.t ≤ maxAge) = true → decide (¬ a.t ≤ maxAge) = true) :=
    (List.pairwise_reverse.2 (sortedByT_iff.1 hs)).imp fun {a b} hab => by simp; omega
  obtain ⟨htw, hdw⟩ := takeWhile_dropWhile_eq_filter _ _ hmono
  rw [htw, hdw, List.filter_reverse, List.filter_reverse, List.reverse_reverse, List.reverse_reverse]
  congr 1 <;> exact List.filter_congr fun p _ => by simp [← decide_not]

namespace C02S

def dedupAdj : List Nat → List Nat
  | [] => []
  | [x] => [x]
  | x :: y :: rest => if x = y then dedupAdj (y :: rest) else x :: dedupAdj (y :: rest)

def pushNew (acc : List Nat) (x : Nat) : List Nat :=
  match acc with
  | last :: _ => if last = x then acc else x :: acc
  | [] => [x]

theorem dedupAdj_cons_cons (x y : Nat) (rest : List Nat) :
    dedupAdj (x :: y :: rest) = if x = y then dedupAdj (y :: rest) else x :: dedupAdj (y :: rest) := rfl

theorem dedupAdj_head (x : Nat) (xs : List Nat) : ∃ r, dedupAdj (x :: xs) = x :: r := by
  induction xs generalizing x with
  | nil => exact ⟨[], rfl⟩
  | cons y ys ih =>
    rw [dedupAdj_cons_cons]
    by_cases h : x = y
    · rw [if_pos h, h]; exact ih y
    · rw [if_neg h]; exact ⟨_, rfl⟩

/-- the accumulator loop computes `dedupAdj`, reversed -/
theorem foldl_pushNew_cons (last : Nat) (acc xs : List Nat) :
    (xs.foldl pushNew (last :: acc)).reverse = acc.reverse ++ dedupAdj (last :: xs) := by
  induction xs generalizing last acc with
  | nil => simp [dedupAdj]
  | cons x xs ih =>
    simp only [List.foldl_cons, pushNew, dedupAdj_cons_cons]
    by_cases h : last = x
    · rw [if_pos h, if_pos h, ih last acc, h]
    · rw [if_neg h, if_neg h, ih x (last :: acc)]
      simp

theorem foldl_pushNew_nil (xs : List Nat) : (xs.foldl pushNew []).reverse = dedupAdj xs := by
  cases xs with
  | nil => rfl
  | cons x xs => simpa [pushNew] using foldl_pushNew_cons x [] xs

theorem timesToPropagate_cons (a : Arch) (acc : List Nat) (t : Nat) (ts : List Nat) :
    timesToPropagate a acc (t :: ts) = timesToPropagate a (pushNew acc (a.intervalForWrite t)) ts := by
  cases acc with
  | nil => rfl
  | cons last rest => simp only [timesToPropagate, pushNew, eq_comm (a := last)]; split <;> rfl

theorem timesToPropagate_eq (a : Arch) (ts acc : List Nat) :
    timesToPropagate a acc ts = ((ts.map a.intervalForWrite).foldl pushNew acc).reverse := by
  induction ts generalizing acc with
  | nil => rfl
  | cons t ts ih => rw [timesToPropagate_cons, ih]; rfl

theorem timesToPropagate_dedup (a : Arch) (ts : List Nat) :
    timesToPropagate a [] ts = dedupAdj (ts.map a.intervalForWrite) := by
  rw [timesToPropagate_eq, foldl_pushNew_nil]

theorem mem_dedupAdj (x : Nat) (xs : List Nat) : x ∈ dedupAdj xs ↔ x ∈ xs := by
  induction xs with
  | nil => simp [dedupAdj]
  | cons y ys ih =>
    cases ys with
    | nil => simp [dedupAdj]
    | cons z zs =>
      rw [dedupAdj_cons_cons]
      by_cases h : y = z
      · rw [if_pos h, ih, h]; simp
      · rw [if_neg h, List.mem_cons, ih]; simp

end C02S

end Wsp
