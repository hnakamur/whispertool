import Wsp.Props.C14
namespace Wsp
open C14

/-! The ideal (no wrap-around) meaning of a well-formed archive list, and the proof that
    ⟦ArchiveInfoList.validate⟧, computed with uint32/int32 arithmetic, decides exactly it. -/

def sumN : List Arch → Nat
  | [] => 0
  | a :: as => a.n + sumN as

/-- one archive: positive step and count, retention representable in 31 bits -/
def ArchOK (a : Arch) : Prop := 0 < a.step ∧ 0 < a.n ∧ a.step * (a.n : Int) ≤ 2147483647

/-- an archive and the next: strictly finer step dividing the next, strictly shorter
    retention, enough points to consolidate one point of the next -/
def PairOK (a nx : Arch) : Prop :=
  a.step < nx.step ∧ nx.step % a.step = 0 ∧ a.step * (a.n : Int) < nx.step * (nx.n : Int) ∧
  nx.step / a.step ≤ (a.n : Int)

def WFFrom : Nat → List Arch → Prop
  | _, [] => True
  | off, [a] => ArchOK a ∧ a.offset = off
  | off, a :: nx :: rest => ArchOK a ∧ a.offset = off ∧ PairOK a nx ∧ WFFrom (off + 12 * a.n) (nx :: rest)

/-- the property's notion of an acceptable archive list, over ideal integers -/
def WellFormedArchs (as : List Arch) : Prop :=
  as ≠ [] ∧ 16 + 12 * as.length + 12 * sumN as ≤ 4294967295 ∧ WFFrom (16 + 12 * as.length) as

theorem wfFrom_cons (off : Nat) (a : Arch) (rest : List Arch) :
    WFFrom off (a :: rest) ↔
      ArchOK a ∧ a.offset = off ∧ (∀ nx, rest.head? = some nx → PairOK a nx) ∧ WFFrom (off + 12 * a.n) rest := by
  cases rest <;> simp [WFFrom]

theorem wfFrom_archOK {as : List Arch} {off : Nat} (h : WFFrom off as) : ∀ a ∈ as, ArchOK a := by
  induction as generalizing off with
  | nil => intro a ha; cases ha
  | cons x rest ih =>
    obtain ⟨hx, -, -, ht⟩ := (wfFrom_cons ..).1 h
    exact List.forall_mem_cons.2 ⟨hx, ih ht⟩

theorem sizeFits_iff (size : Nat) (as : List Arch) :
    sizeFits size as = true ↔ as = [] ∨ size + 12 * sumN as ≤ 4294967295 := by
  induction as generalizing size with
  | nil => simp [sizeFits]
  | cons a as ih =>
    have e : size + 12 * sumN (a :: as) = size + a.n * 12 + 12 * sumN as := by
      rw [sumN, Nat.mul_add, Nat.mul_comm 12 a.n, Nat.add_assoc]
    simp only [sizeFits]
    rw [e, or_iff_right (List.cons_ne_nil a as)]
    generalize size + a.n * 12 = s
    by_cases hgt : s > 4294967295
    · rw [if_pos hgt]
      exact ⟨fun h => (nomatch h), fun h => absurd (Nat.le_trans (Nat.le_add_right _ _) h) (Nat.not_le_of_gt hgt)⟩
    · -- an empty rest adds nothing to `s`
      rw [if_neg hgt, ih]
      exact or_iff_right_of_imp fun e => e ▸ Nat.le_of_not_gt hgt

theorem archValid_iff (a : Arch) : a.valid = true ↔ ArchOK a := by
  simp [Arch.valid, ArchOK, and_assoc]

/-- step and count each fit in 31 bits, since their product does -/
theorem ArchOK.step_lt {a : Arch} (ok : ArchOK a) : a.step < 2147483648 := by
  have : a.step * 1 ≤ a.step * (a.n : Int) :=
    Int.mul_le_mul_of_nonneg_left (by have := ok.2.1; omega) (by have := ok.1; omega)
  have := ok.2.2
  omega

theorem ArchOK.n_le {a : Arch} (ok : ArchOK a) : (a.n : Int) ≤ 2147483647 := by
  have : 1 * (a.n : Int) ≤ a.step * (a.n : Int) :=
    Int.mul_le_mul_of_nonneg_right (by have := ok.1; omega) (by omega)
  have := ok.2.2
  omega

theorem maxRetention_ideal {a : Arch} (h : ArchOK a) : a.maxRetention = a.step * (a.n : Int) := by
  have hn := h.n_le
  obtain ⟨hs, -, hr⟩ := h
  have hp : 0 ≤ a.step * (a.n : Int) := Int.mul_nonneg (by omega) (by omega)
  unfold Arch.maxRetention
  rw [i32_id (a.n : Int) (by omega) (by omega), i32_id _ (by omega) (by omega)]

theorem validateLoop_cons_cons (off : Nat) (a nx : Arch) (rest : List Arch) :
    validateLoop off (a :: nx :: rest) = true ↔
      a.valid = true ∧ a.offset = off ∧
      (a.step < nx.step ∧ Int.tmod nx.step a.step = 0 ∧ a.maxRetention < nx.maxRetention ∧
        u32 (Int.tdiv nx.step a.step) ≤ a.n) ∧
      validateLoop (u32 ((off : Int) + (u32 ((a.n : Int) * 12) : Int))) (nx :: rest) = true := by
  rw [validateLoop]
  simp only [Bool.if_false_left, Bool.and_eq_true, Bool.not_eq_eq_eq_not, Bool.not_true, decide_eq_false_iff_not, ne_eq,
    Bool.not_eq_false, Decidable.not_not, ge_iff_le, Int.not_le, Nat.not_lt, and_assoc]

/-- where the arithmetic is: between two archives that are each in order, the four tests of the
    loop, in int32/uint32 arithmetic with truncated division, say `PairOK` over the integers -/
theorem pairOK_iff {a nx : Arch} (ha : ArchOK a) (hnx : ArchOK nx) :
    (a.step < nx.step ∧ Int.tmod nx.step a.step = 0 ∧ a.maxRetention < nx.maxRetention ∧
      u32 (Int.tdiv nx.step a.step) ≤ a.n) ↔ PairOK a nx := by
  have hq0 : 0 ≤ nx.step / a.step := Int.ediv_nonneg (Int.le_of_lt hnx.1) (Int.le_of_lt ha.1)
  have hqle : nx.step / a.step ≤ nx.step := Int.ediv_le_self _ (Int.le_of_lt hnx.1)
  have hqu := u32_id _ hq0 (Int.lt_of_le_of_lt hqle (Int.lt_trans hnx.step_lt (by decide)))
  rw [maxRetention_ideal ha, maxRetention_ideal hnx, Int.tmod_eq_emod_of_nonneg (Int.le_of_lt hnx.1),
    Int.tdiv_eq_ediv_of_nonneg (Int.le_of_lt hnx.1), PairOK]
  omega

theorem validateLoop_iff (off : Nat) (as : List Arch) (hsz : off + 12 * sumN as ≤ 4294967295) :
    validateLoop off as = true ↔ WFFrom off as := by
  induction as generalizing off with
  | nil => simp [validateLoop, WFFrom]
  | cons a rest ih =>
    cases rest with
    | nil => simp [validateLoop, WFFrom, archValid_iff]
    | cons nx rest =>
      rw [sumN, Nat.mul_add, ← Nat.add_assoc] at hsz
      rw [validateLoop_cons_cons, u32_add_mul12 off a.n (Nat.le_trans (Nat.le_add_right _ _) hsz), ih _ hsz,
        archValid_iff, WFFrom]
      -- the next archive is in order because the rest of the list is
      exact and_congr_right fun ha => and_congr_right fun _ => and_congr_left fun ht =>
        pairOK_iff ha ((wfFrom_cons ..).1 ht).1

theorem firstOffset_ideal (k : Nat) (hk : 16 + 12 * k ≤ 4294967295) : firstOffset k = 16 + 12 * k := by
  unfold firstOffset
  rw [u32_of_nat k (by omega)]
  exact u32_add_mul12 16 k hk

/-- ⟦ArchiveInfoList.validate⟧ accepts exactly the well-formed lists. -/
theorem validateArchs_true_iff (as : List Arch) : validateArchs as = true ↔ WellFormedArchs as := by
  have e : validateArchs as = true ↔ as ≠ [] ∧ sizeFits (16 + as.length * 12) as = true ∧
      validateLoop (firstOffset as.length) as = true := by
    simp [validateArchs]
  rw [e, sizeFits_iff, WellFormedArchs, Nat.mul_comm as.length]
  refine and_congr_right fun he => ?_
  rw [or_iff_right he]
  exact and_congr_right fun hs => by rw [firstOffset_ideal _ (by omega), validateLoop_iff _ _ hs]

/-- the same for a decodable list; the ranges `hr` are not needed -/
theorem validateArchs_iff (as : List Arch) (hr : ∀ a ∈ as, ArchWF a) :
    validateArchs as = true ↔ WellFormedArchs as := validateArchs_true_iff as

end Wsp
