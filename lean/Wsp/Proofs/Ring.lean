import Wsp.Proofs.Layout
namespace Wsp
open Handle C14
variable {a : Arch}

/-! The ring: how the two-branch read of ⟦fetchRawPoints⟧ walks the slots modulo N, and
    what a fetch returns in terms of the slots (R2 of DESIGN §3.1). -/

def slotAt (h : Handle) (a : Arch) (i : Nat) : Point :=
  ⟨de32 (h.view.drop (a.offset + 12 * i)), de64 ((h.view.drop (a.offset + 12 * i)).drop 4)⟩

theorem de64_take12 (l : Bytes) : de64 ((l.take 12).drop 4) = de64 (l.drop 4) := by
  unfold de64
  rw [List.drop_drop, List.drop_drop, de32_drop_take (by omega), de32_drop_take (by omega)]

theorem readPointAt_slot (h : Handle) (a : Arch) (i : Nat) (hb : a.offset + 12 * i + 12 ≤ h.view.length) :
    h.readPointAt (a.offset + 12 * i) = .ok (slotAt h a i) := by
  unfold readPointAt readAt
  have : ¬ (a.offset + 12 * i + 12 > h.view.length) := by omega
  simp only [this, if_false]
  unfold slotAt
  rw [de32_take (by omega), de64_take12]

theorem readPoints_slots (h : Handle) (a : Arch) (is : List Nat)
    (hb : ∀ i ∈ is, a.offset + 12 * i + 12 ≤ h.view.length) :
    h.readPoints (is.map fun i => a.offset + 12 * i) = .ok (is.map (slotAt h a)) := by
  induction is with
  | nil => rfl
  | cons i is ih =>
    simp only [List.map_cons, readPoints, readPointAt_slot h a i (hb i (by simp)),
      ih (fun j hj => hb j (by simp [hj]))]

theorem offsRange_slots (off j0 j1 : Nat) (h : j0 ≤ j1) :
    offsRange (off + 12 * j0) (off + 12 * j1) = (List.range (j1 - j0)).map fun i => off + 12 * (j0 + i) := by
  obtain ⟨d, rfl⟩ := Nat.le.dest h
  unfold offsRange
  rw [Nat.mul_add, ← Nat.add_assoc, Nat.add_sub_cancel_left, Nat.add_sub_cancel_left,
    show (12 * d + 11) / 12 = d by omega]
  exact List.map_congr_left fun i _ => by rw [Nat.mul_add, Nat.add_assoc]

def ringIdx (n j0 count : Nat) : List Nat := (List.range count).map fun i => (j0 + i) % n

@[simp] theorem ringIdx_length (n j0 count : Nat) : (ringIdx n j0 count).length = count := by simp [ringIdx]

theorem ringIdx_nowrap (n j0 count : Nat) (h : j0 + count ≤ n) :
    ringIdx n j0 count = (List.range count).map fun i => j0 + i := by
  unfold ringIdx
  apply List.map_congr_left
  intro i hi
  simp at hi
  exact Nat.mod_eq_of_lt (by omega)

theorem ringIdx_wrap (n j0 count : Nat) (hj : j0 < n) (h1 : n ≤ j0 + count) (h2 : count ≤ n) :
    ringIdx n j0 count = ((List.range (n - j0)).map fun i => j0 + i) ++ (List.range (j0 + count - n)) := by
  -- `n = j0 + m` and `count = m + r`: `m` indices up to the end of the ring, then `r` from its start
  obtain ⟨m, rfl⟩ := Nat.le.dest (Nat.le_of_lt hj)
  obtain ⟨r, rfl⟩ := Nat.le.dest (Nat.le_of_add_le_add_left h1)
  unfold ringIdx
  rw [Nat.add_sub_cancel_left, ← Nat.add_assoc, Nat.add_sub_cancel_left, List.range_add, List.map_append,
    List.map_map]
  congr 1
  · exact List.map_congr_left fun i hi => Nat.mod_eq_of_lt (Nat.add_lt_add_left (List.mem_range.1 hi) _)
  · refine (List.map_congr_left fun i hi => ?_).trans (List.map_id _)
    have := List.mem_range.1 hi
    show (j0 + (m + i)) % (j0 + m) = i
    rw [← Nat.add_assoc, Nat.add_mod_left]
    exact Nat.mod_eq_of_lt (by omega)

/-- the offsets read by the two-branch loop are the `count` consecutive ring slots starting
    at the slot of `fromI` — for any window of at most `N` intervals -/
theorem rawOffsets_ring (a : Arch) (j0 count : Nat) (hn : 0 < a.n) (hj0 : j0 < a.n)
    (hc1 : 0 < count) (hc2 : count ≤ a.n) (hfit : a.offset + 12 * a.n ≤ 4294967295)
    (fromOff untilOff : Nat) (hf : fromOff = a.offset + 12 * j0)
    (hu : untilOff = a.offset + 12 * ((j0 + count) % a.n)) :
    (if fromOff < untilOff then offsRange fromOff untilOff
     else offsRange fromOff (u32 ((a.offset : Int) + (u32 ((a.n : Int) * 12) : Int))) ++ offsRange a.offset untilOff)
      = (ringIdx a.n j0 count).map fun i => a.offset + 12 * i := by
  subst hf hu
  rw [u32_add_mul12 _ _ hfit]
  clear hfit
  by_cases hw : j0 + count < a.n
  · rw [Nat.mod_eq_of_lt hw, if_pos (by omega), offsRange_slots a.offset j0 (j0 + count) (Nat.le_add_right _ _),
      ringIdx_nowrap a.n j0 count (Nat.le_of_lt hw), List.map_map, Nat.add_sub_cancel_left]
    rfl
  · -- wrap: (j0 + count) % n = j0 + count - n ≤ j0
    have hge := Nat.le_of_not_lt hw
    have h0 := offsRange_slots a.offset 0 (j0 + count - a.n) (Nat.zero_le _)
    simp only [Nat.mul_zero, Nat.add_zero, Nat.sub_zero, Nat.zero_add] at h0
    rw [Nat.mod_eq_sub_mod hge, Nat.mod_eq_of_lt (by omega), if_neg (by omega),
      offsRange_slots a.offset j0 a.n (Nat.le_of_lt hj0), h0, ringIdx_wrap a.n j0 count hj0 hge hc2,
      List.map_append, List.map_map]
    rfl

/-- the zone in which a window `[fromI, untilI)` of archive `a` is read relative to `base`
    (the bounds 2^31 are those within which the int32 `tsSub` does not wrap) -/
structure RingZone (a : Arch) (base fI uI : Nat) : Prop where
  hs : 0 < a.step
  hn : 0 < a.n
  hr : a.step * (a.n : Int) ≤ 2147483647
  hb : base < 2147483648
  hu : uI < 2147483648
  hlt : fI < uI
  hspan : (uI : Int) - fI ≤ a.step * (a.n : Int)
  hal1 : a.step ∣ ((fI : Int) - (base : Int))
  hal2 : a.step ∣ ((uI : Int) - (fI : Int))

def slotIdx (a : Arch) (base iv : Nat) : Nat := (a.pointIndex base iv).toNat

theorem pointOffsetAt_slot (hn : 0 < a.n) (hfit : a.offset + 12 * a.n ≤ 4294967295) (base I : Nat) :
    a.pointOffsetAt (a.pointIndex base I) = a.offset + 12 * slotIdx a base I :=
  pointOffsetAt_ideal (pointIndex_range a hn base I).1 (pointIndex_range a hn base I).2 hfit

def winCount (a : Arch) (fI uI : Nat) : Nat := (((uI : Int) - (fI : Int)) / a.step).toNat

theorem RingZone.count_range {base fI uI : Nat} (z : RingZone a base fI uI) :
    0 < winCount a fI uI ∧ winCount a fI uI ≤ a.n ∧
    ((winCount a fI uI : Nat) : Int) = ((uI : Int) - fI) / a.step ∧
    ((uI : Int) - fI) = a.step * (winCount a fI uI : Int) := by
  obtain ⟨q, hq⟩ := z.hal2
  have hqpos : 0 < q := Int.pos_of_mul_pos_right (hq ▸ Int.sub_pos.2 (Int.ofNat_lt.2 z.hlt)) z.hs
  obtain ⟨c, rfl⟩ := Int.eq_ofNat_of_zero_le (Int.le_of_lt hqpos)
  unfold winCount
  rw [hq, Int.mul_ediv_cancel_left _ (Int.ne_of_gt z.hs), Int.toNat_natCast]
  exact ⟨Int.natCast_pos.1 hqpos, Int.ofNat_le.1 (Int.le_of_mul_le_mul_left (hq ▸ z.hspan) z.hs), rfl, rfl⟩

/-- a window given by its origin on the grid and its number of steps, `1 ≤ c ≤ N` -/
theorem RingZone.window {base f : Nat} (c : Nat) (hs : 0 < a.step) (hn : 0 < a.n)
    (hr : a.step * (a.n : Int) ≤ 2147483647) (hb : base < 2147483648) (hal : a.step ∣ ((f : Int) - base))
    (hc0 : 0 < c) (hcn : c ≤ a.n) (hhi : f + a.step.toNat * c < 2147483648) :
    RingZone a base f (f + a.step.toNat * c) ∧ winCount a f (f + a.step.toNat * c) = c := by
  have hw := window_cast hs f c
  have hpos : 0 < a.step * (c : Int) := Int.mul_pos hs (Int.natCast_pos.2 hc0)
  have hle : a.step * (c : Int) ≤ a.step * (a.n : Int) :=
    Int.mul_le_mul_of_nonneg_left (Int.ofNat_le.2 hcn) (Int.le_of_lt hs)
  have e : ((f + a.step.toNat * c : Nat) : Int) - f = a.step * c := Int.sub_eq_iff_eq_add'.2 hw
  refine ⟨⟨hs, hn, hr, hb, hhi, by omega, e ▸ hle, hal, e ▸ Int.dvd_mul_right _ _⟩, ?_⟩
  unfold winCount
  rw [e, Int.mul_ediv_cancel_left _ (Int.ne_of_gt hs), Int.toNat_natCast]

theorem RingZone.end_eq {base fI uI : Nat} (z : RingZone a base fI uI) :
    fI + a.step.toNat * winCount a fI uI = uI := by
  apply Int.natCast_inj.1
  rw [window_cast z.hs, ← z.count_range.2.2.2, Int.add_comm, Int.sub_add_cancel]

/-- every instant of the window lies before its end -/
theorem RingZone.instant_lt {base fI uI : Nat} (z : RingZone a base fI uI) {i : Nat}
    (hi : i < winCount a fI uI) : fI + a.step.toNat * i < uI :=
  Nat.lt_of_lt_of_eq (Nat.add_lt_add_left ((Nat.mul_lt_mul_left (Int.lt_toNat.2 z.hs)).2 hi) _) z.end_eq

theorem slotIdx_lt (hn : 0 < a.n) (base J : Nat) : slotIdx a base J < a.n := by
  have := pointIndex_range a hn base J
  unfold slotIdx; omega

theorem RingZone.idx_until {base fI uI : Nat} (z : RingZone a base fI uI) :
    slotIdx a base uI = (slotIdx a base fI + winCount a fI uI) % a.n := by
  obtain ⟨_, _, _, hmul⟩ := z.count_range
  obtain ⟨q, hq⟩ := z.hal1
  have ef := pointIndex_of_mul z.hs z.hn z.hb (Nat.lt_trans z.hlt z.hu) hq
  have eu := pointIndex_of_mul z.hs z.hn z.hb z.hu (q := q + winCount a fI uI)
    (by rw [Int.mul_add, ← hq, ← hmul, Int.add_comm, ← Int.add_sub_assoc, Int.sub_add_cancel])
  apply Int.natCast_inj.1
  unfold slotIdx
  rw [Int.natCast_emod, Int.natCast_add, Int.toNat_of_nonneg (pointIndex_range a z.hn base uI).1,
    Int.toNat_of_nonneg (pointIndex_range a z.hn base fI).1, eu, ef, Int.emod_add_emod]

theorem RingZone.rawOffsets_eq {base fI uI : Nat} (z : RingZone a base fI uI)
    (hfit : a.offset + 12 * a.n ≤ 4294967295) :
    rawOffsets a base fI uI =
      (ringIdx a.n (slotIdx a base fI) (winCount a fI uI)).map fun i => a.offset + 12 * i := by
  obtain ⟨hc1, hc2, _, _⟩ := z.count_range
  unfold rawOffsets
  exact rawOffsets_ring a (slotIdx a base fI) (winCount a fI uI) z.hn (slotIdx_lt z.hn base fI) hc1 hc2 hfit _ _
    (pointOffsetAt_slot z.hn hfit base fI)
    (by rw [pointOffsetAt_slot z.hn hfit, z.idx_until])

theorem readPoints_ring (h : Handle) (a : Arch) (j0 c : Nat) (hn : 0 < a.n)
    (hsz : a.offset + 12 * a.n ≤ h.view.length) :
    h.readPoints ((ringIdx a.n j0 c).map fun i => a.offset + 12 * i) = .ok ((ringIdx a.n j0 c).map (slotAt h a)) := by
  apply readPoints_slots
  intro i hi
  simp only [ringIdx, List.mem_map, List.mem_range] at hi
  obtain ⟨k, _, rfl⟩ := hi
  have := Nat.mod_lt (j0 + k) hn
  omega

/-- **R2**: inside the zone, ⟦fetchRawPoints⟧ returns the `count` consecutive ring slots
    starting at the slot of `fromI`. -/
theorem fetchRawPoints_ring (h : Handle) (a : Arch) (base fI uI : Nat) (z : RingZone a base fI uI)
    (hbase : h.baseInterval a = .ok base)
    (hsz : a.offset + 12 * a.n ≤ h.view.length) (hfit : a.offset + 12 * a.n ≤ 4294967295) :
    h.fetchRawPoints a fI uI =
      .ok ((ringIdx a.n (slotIdx a base fI) (winCount a fI uI)).map (slotAt h a)) := by
  obtain ⟨_, _, hcnt, _⟩ := z.count_range
  have hfl : fI < 2147483648 := Nat.lt_trans z.hlt z.hu
  have hcount : Int.tdiv (tsSub uI fI) a.step = (winCount a fI uI : Int) := by
    rw [tsSub_ideal uI fI z.hu hfl, Int.tdiv_eq_ediv_of_dvd z.hal2, hcnt]
  unfold fetchRawPoints
  -- there are exactly `count` offsets, so neither the `invalid` branch nor the padding applies
  simp only [hbase, hcount, z.rawOffsets_eq hfit, readPoints_ring h a _ _ z.hn hsz, Int.toNat_natCast,
    List.length_map, ringIdx_length, Nat.lt_irrefl, gt_iff_lt, if_false, Nat.sub_self, List.replicate_zero,
    List.append_nil, Int.not_lt.2 (Int.natCast_nonneg (winCount a fI uI))]

/-- ⟦clearOldPoints⟧ over `n` slots named `k, k + 1, …` by an arbitrary `f` (the induction moves the start `k` and keeps
    the names): slot `i` keeps its value iff it is stamped with the `(i - k)`-th instant from `cur` -/
theorem clearOldPoints_ring (s : Nat) (hs : 0 < s) (f : Nat → Point) :
    ∀ (n k cur : Nat), cur + s * n < 4294967296 →
    (clearOldPoints (s : Int) cur ((List.range' k n).map f)).map (·.v) =
      (List.range' k n).map fun i => if (f i).t = cur + s * (i - k) then (f i).v else nanBits := by
  intro n
  induction n with
  | zero => intro k cur _; rfl
  | succ n ih =>
    intro k cur hb
    rw [Nat.mul_succ] at hb
    rw [List.range'_succ]
    simp only [List.map_cons, clearOldPoints]
    congr 1
    · by_cases ht : (f k).t = cur <;> simp [ht]
    · rw [tsAdd_nat cur s (by omega), ih (k + 1) (cur + s) (by omega)]
      apply List.map_congr_left
      intro i hi
      obtain ⟨j, rfl⟩ := Nat.le.dest (List.mem_range'_1.1 hi).1
      rw [Nat.add_sub_cancel_left, Nat.add_assoc k, Nat.add_sub_cancel_left, Nat.mul_add, Nat.mul_one,
        Nat.add_assoc cur]

end Wsp
