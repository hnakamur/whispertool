import Wsp.Proofs.BytesLemmas
namespace Wsp

/-! ### decoders of a fixed width

Every scalar `TakeFrom` has one shape: refuse fewer than `n` bytes, naming `n`; else read `n`
bytes.  The five of them are `fixedDec` by `rfl`.  Here is only its inversion; behaviour on a
truncated input (`C14.fixedDec_prefix`) and totality (`C15.fixedDec_total`) are proved once of
`fixedDec` and carried over; the round trips (C14) are proved decoder by decoder. -/

def fixedDec {α} (n : Nat) (f : Bytes → α) (src : Bytes) : R (α × Bytes) :=
  if src.length < n then .error (.wantLarger n) else .ok (f src, src.drop n)

theorem decTimestamp_fixed : decTimestamp = fixedDec 4 de32 := rfl
theorem decDuration_fixed : decDuration = fixedDec 4 fun s => i32 (de32 s) := rfl
theorem decValue_fixed : decValue = fixedDec 8 de64 := rfl
theorem decPoint_fixed : decPoint = fixedDec 12 fun s => ⟨de32 s, de64 (s.drop 4)⟩ := rfl
theorem decArch_fixed : decArch = fixedDec 12 fun s => ⟨de32 s, i32 (de32 (s.drop 4)), de32 (s.drop 8)⟩ := rfl

theorem fixedDec_ok_iff {α} {n : Nat} {f : Bytes → α} {src : Bytes} {a : α} {rest : Bytes} :
    fixedDec n f src = .ok (a, rest) ↔ n ≤ src.length ∧ f src = a ∧ src.drop n = rest := by
  unfold fixedDec
  split <;> simp <;> omega

@[simp] theorem encPoint_length (p : Point) : (encPoint p).length = 12 := by
  simp [encPoint, encTimestamp, encValue]

@[simp] theorem encValues_length (vs : List Val) : (encValues vs).length = 8 * vs.length := by
  induction vs with
  | nil => simp [encValues]
  | cons v vs ih => simp [encValues, encValue, ih]; omega

@[simp] theorem encPointsBody_length (ps : List Point) : (encPointsBody ps).length = 12 * ps.length := by
  induction ps with
  | nil => simp [encPointsBody]
  | cons p ps ih => simp [encPointsBody, ih]; omega

/-- the body loops (values, points, archives) never fail once the length was checked -/
theorem decValues_ok (n : Nat) (src : Bytes) (h : n * 8 ≤ src.length) :
    ∃ vs rest, decValues n src = .ok (vs, rest) := by
  induction n generalizing src with
  | zero => exact ⟨[], src, rfl⟩
  | succ n ih =>
    have h8 : ¬ src.length < 8 := by omega
    obtain ⟨vs, rest, hv⟩ := ih (src.drop 8) (by simp; omega)
    exact ⟨de64 src :: vs, rest, by simp [decValues, decValue_fixed, fixedDec, h8, hv]⟩

theorem decPointsBody_ok (n : Nat) (src : Bytes) (h : n * 12 ≤ src.length) :
    ∃ ps rest, decPointsBody n src = .ok (ps, rest) ∧ ps.length = n := by
  induction n generalizing src with
  | zero => exact ⟨[], src, rfl, rfl⟩
  | succ n ih =>
    have h12 : ¬ src.length < 12 := by omega
    obtain ⟨ps, rest, hv, hl⟩ := ih (src.drop 12) (by simp; omega)
    exact ⟨⟨de32 src, de64 (src.drop 4)⟩ :: ps, rest, by simp [decPointsBody, decPoint_fixed, fixedDec, h12, hv], by simp [hl]⟩

theorem decArchs_ok (n : Nat) (src : Bytes) (h : n * 12 ≤ src.length) :
    ∃ as rest, decArchs n src = .ok (as, rest) := by
  induction n generalizing src with
  | zero => exact ⟨[], src, rfl⟩
  | succ n ih =>
    have h12 : ¬ src.length < 12 := by omega
    obtain ⟨as, rest, hv⟩ := ih (src.drop 12) (by simp; omega)
    exact ⟨⟨de32 src, i32 (de32 (src.drop 4)), de32 (src.drop 8)⟩ :: as, rest,
      by simp [decArchs, decArch_fixed, fixedDec, h12, hv]⟩

/-- well-formed series: what every fetch returns (see `C04`) -/
structure SeriesWF (s : Series) : Prop where
  f_lt : s.from_ < 4294967296
  u_lt : s.until_ < 4294967296
  le : s.from_ ≤ s.until_
  step_pos : 0 < s.step
  step_lt : s.step < 2147483648
  len : s.values.length = (Int.tdiv ((s.until_ : Int) - (s.from_ : Int)) s.step).toNat

theorem encSeries_length (s : Series) : (encSeries (some s)).length = 12 + 8 * s.values.length := by
  simp [encSeries, encTimestamp, encDuration]; omega

/-- ⟦Points.TakeFrom⟧ in four stages, with the ghost allocation of each -/
theorem decPoints_cases (src : Bytes) :
    (src.length < 8 ∧ decPoints src = .error (.wantLarger 8) ∧ decPointsAlloc src = 0) ∨
    (8 ≤ src.length ∧ maxPointCount < de64Nat src ∧ decPoints src = .error (.err .invalid) ∧ decPointsAlloc src = 0) ∨
    (8 ≤ src.length ∧ de64Nat src ≤ maxPointCount ∧ src.length < 8 + de64Nat src * 12 ∧
      decPoints src = .error (.wantLarger ↑(8 + de64Nat src * 12)) ∧ decPointsAlloc src = 0) ∨
    (8 ≤ src.length ∧ de64Nat src ≤ maxPointCount ∧ 8 + de64Nat src * 12 ≤ src.length ∧
      decPoints src = decPointsBody (de64Nat src) (src.drop 8) ∧ decPointsAlloc src = de64Nat src) := by
  unfold decPoints decPointsAlloc
  dsimp only
  by_cases h8 : src.length < 8
  · exact .inl ⟨h8, if_pos h8, if_pos h8⟩
  rw [if_neg h8, if_neg h8]
  have h8 := Nat.le_of_not_lt h8
  by_cases hc : de64Nat src > maxPointCount
  · exact .inr (.inl ⟨h8, hc, if_pos hc, if_pos hc⟩)
  rw [if_neg hc, if_neg hc]
  have hc := Nat.le_of_not_lt hc
  have hd := length_drop_lt_iff (m := de64Nat src * 12) h8
  by_cases hw : src.length < 8 + de64Nat src * 12
  · exact .inr (.inr (.inl ⟨h8, hc, hw, by rw [if_pos (hd.2 hw)]; simp, if_pos (hd.2 hw)⟩))
  · exact .inr (.inr (.inr ⟨h8, hc, Nat.le_of_not_lt hw, if_neg (mt hd.1 hw), if_neg (mt hd.1 hw)⟩))

/-! ### ⟦Header.TakeFrom⟧ in four stages

What the decoder does is decided by the length of the input and by two things it reads off the
sixteen bytes of meta-data: whether method and xFilesFactor pass (`metaOK`) and the size of the
whole header (`headerLen`). -/

def metaOK (o : FOps) (src : Bytes) : Bool :=
  validAgg (de32 src) && o.xffValid (UInt32.ofNat (de32 (src.drop 8)))

def headerLen (src : Bytes) : Nat := 16 + de32 (src.drop 12) * 12

theorem decHeader_cases (o : FOps) (src : Bytes) :
    (src.length < 16 ∧ decHeader o src = .error (.wantLarger 16)) ∨
    (16 ≤ src.length ∧ metaOK o src = false ∧ decHeader o src = .error (.err .invalid)) ∨
    (16 ≤ src.length ∧ metaOK o src = true ∧ src.length < headerLen src ∧
      decHeader o src = .error (.wantLarger (headerLen src))) ∨
    (16 ≤ src.length ∧ metaOK o src = true ∧ headerLen src ≤ src.length ∧
      ∃ as rest, decArchs (de32 (src.drop 12)) (src.drop 16) = .ok (as, rest) ∧
        decHeader o src = if validateArchs as then
          .ok (⟨de32 src, i32 (de32 (src.drop 4)), UInt32.ofNat (de32 (src.drop 8)), de32 (src.drop 12), as⟩, rest)
        else .error (.err .invalid)) := by
  unfold headerLen metaOK decHeader
  dsimp only
  by_cases h16 : src.length < 16
  · exact .inl ⟨h16, if_pos h16⟩
  rw [if_neg h16]
  have h16 := Nat.le_of_not_lt h16
  cases validAgg (de32 src)
  · exact .inr (.inl ⟨h16, rfl, rfl⟩)
  cases o.xffValid (UInt32.ofNat (de32 (src.drop 8)))
  · exact .inr (.inl ⟨h16, rfl, rfl⟩)
  have hl := length_drop_lt_iff (m := de32 (src.drop 12) * 12) h16
  by_cases hN : src.length < 16 + de32 (src.drop 12) * 12
  · refine .inr (.inr (.inl ⟨h16, rfl, hN, ?_⟩))
    simp only [hl.2 hN, if_true, if_false, Bool.not_true, Bool.false_eq_true]
    simp
  · have hN' := mt hl.1 hN
    obtain ⟨as, rest, hd⟩ := decArchs_ok _ _ (Nat.le_of_not_lt hN')
    refine .inr (.inr (.inr ⟨h16, rfl, Nat.le_of_not_lt hN, as, rest, hd, ?_⟩))
    simp only [hN', hd, if_false, Bool.not_true, Bool.false_eq_true]
    cases validateArchs as <;> rfl

theorem decHeader_error {o : FOps} {src : Bytes} {e : Fault} (h : decHeader o src = .error e) :
    e = .err .invalid ∨ ∃ n : Nat, e = .wantLarger n ∧ src.length < n := by
  rcases decHeader_cases o src with ⟨hl, e'⟩ | ⟨_, _, e'⟩ | ⟨_, _, hN, e'⟩ | ⟨_, _, _, as, r, _, e'⟩ <;> rw [e'] at h
  · cases h; exact .inr ⟨16, rfl, hl⟩
  · cases h; exact .inl rfl
  · cases h; exact .inr ⟨_, rfl, hN⟩
  · split at h <;> cases h; exact .inl rfl

end Wsp
