import Wsp.Proofs.Batch
import Wsp.Proofs.Zone
namespace Wsp
open Handle

/-!
  The update path, walked once.  What a property says of an update — what it leaves alone,
  which invariant it keeps, which faults it can end in — is `Post E P r`: a returned value
  satisfies `P`, a fault satisfies `E`.  A property states what it knows of the reads and of
  the one store (`UpdRule`); the call structure (⟦propagate⟧ level by level with its
  accumulator, the chain, the two updates, the batch loop) is walked here for any `E`, `P`.
  Frame and the invariant (`E := True`), no panic (`E := NotPanic`) and success with the
  invariant (`E := False`) are instances.
-/

def Post {α : Type} (E : Fault → Prop) (P : α → Prop) : R α → Prop
  | .ok a => P a
  | .error e => E e

namespace Post
variable {α : Type} {E : Fault → Prop} {P : α → Prop} {r : R α}

theorem of_ok (h : Post E P r) {a : α} (hr : r = .ok a) : P a := by subst hr; exact h

theorem of_error (h : Post E P r) {e : Fault} (hr : r = .error e) : E e := by subst hr; exact h

theorem of_forall (h : ∀ a, r = .ok a → P a) : Post (fun _ => True) P r := by
  cases r with
  | ok a => exact h a rfl
  | error e => trivial

theorem trivial : Post (fun _ => True) (fun _ => True) r := of_forall fun _ _ => True.intro

theorem of_exists (h : ∃ a, r = .ok a) (hp : ∀ a, r = .ok a → P a) : Post E P r := by
  obtain ⟨a, rfl⟩ := h; exact hp a rfl

theorem exists_ok (h : Post (fun _ => False) P r) : ∃ a, r = .ok a := by
  cases r with
  | ok a => exact ⟨a, rfl⟩
  | error e => exact h.elim

end Post

variable {h h' : Handle}

/-- store `p` in archive `a`, in the slot ⟦getPointOffset⟧ selects: the write of
    ⟦UpdatePointForArchive⟧ and of every ⟦propagate⟧ step -/
def Handle.store (h : Handle) (a : Arch) (p : Point) : R Handle :=
  match h.getPointOffset p.t a with
  | .error e => .error e
  | .ok off => h.putPointAt p off

theorem Handle.store_ok_iff {a : Arch} {p : Point} :
    h.store a p = .ok h' ↔ ∃ off, h.getPointOffset p.t a = .ok off ∧ h.putPointAt p off = .ok h' := by
  unfold Handle.store
  cases h.getPointOffset p.t a <;> simp

/-- the accumulator step of ⟦propagate⟧ -/
def nextAcc (aLow : Option Arch) (acc : List Nat) (t : Nat) (stored : Bool) : List Nat :=
  if stored then
    match aLow with
    | none => acc
    | some l =>
      let tLow := l.intervalForWrite t
      match acc with
      | last :: _ => if last = tLow then acc else tLow :: acc
      | [] => [tLow]
  else acc

theorem propagateLoop_cons (o : FOps) (h : Handle) (a aHigh : Arch) (aLow : Option Arch) (acc : List Nat) (t : Nat) (ts : List Nat) :
    propagateLoop o h a aHigh aLow acc (t :: ts) =
      match propagateOne o h a aHigh t with
      | .error e => .error e
      | .ok (h, stored) => propagateLoop o h a aHigh aLow (nextAcc aLow acc t stored) ts := by
  simp only [propagateLoop]; rfl

theorem chainLoop_nil (o : FOps) (fuel : Nat) (h : Handle) (k : Nat) : propagateChainLoop o fuel h k [] = .ok h := by
  cases fuel with
  | zero => rfl
  | succ f => simp [propagateChainLoop]

theorem nextAcc_all {Q : Nat → Prop} {aLow : Option Arch} {acc : List Nat} {t : Nat} {stored : Bool}
    (hacc : ∀ x ∈ acc, Q x) (hl : ∀ l, aLow = some l → Q (l.intervalForWrite t)) :
    ∀ x ∈ nextAcc aLow acc t stored, Q x := by
  unfold nextAcc
  split
  · cases aLow with
    | none => exact hacc
    | some l =>
      cases acc with
      | nil => simpa using hl l rfl
      | cons last rest =>
        dsimp only
        split
        · exact hacc
        · exact List.forall_mem_cons.2 ⟨hl l rfl, hacc⟩
  · exact hacc

/-- What a property has to know of the primitive steps, on a file with archive list `as`:
    `P` holds of the handle along the path, `T i t` of every time `t` that reaches level `i`
    of a propagation.  The reads fail only with a fault in `E`; a store fails only so, and
    keeps `P`.  (`as[i - 1]?` is Nat subtraction as in the model's ⟦propagate⟧, which is never run at level 0.) -/
structure UpdRule (o : FOps) (as : List Arch) (E : Fault → Prop) (P : Handle → Prop) (T : Nat → Nat → Prop) : Prop where
  archs : ∀ {h : Handle}, P h → h.archs = as
  down : ∀ {i : Nat} {l : Arch} {t : Nat}, as[i + 1]? = some l → T i t → T (i + 1) (l.intervalForWrite t)
  base : ∀ {h : Handle} {i : Nat} {a : Arch}, P h → as[i]? = some a → Post E (fun _ => True) (h.baseInterval a)
  fetch : ∀ {h : Handle} {i : Nat} {a aH : Arch} {t : Nat}, P h → as[i]? = some a → as[i - 1]? = some aH → T i t →
    Post E (fun _ => True) (h.fetchRawPoints aH t (tsAdd t a.step))
  agg : ∀ {h : Handle} {vs : List Val}, P h → vs ≠ [] → Post E (fun _ => True) (aggregate o h.hdr.agg vs)
  store : ∀ {h : Handle} {i : Nat} {a : Arch} {t : Nat} (v : Val), P h → as[i]? = some a → T i t →
    Post E P (h.store a ⟨t, v⟩)

/-- nothing claimed of faults: only what a store keeps is needed -/
theorem UpdRule.of_store {o : FOps} {as : List Arch} {P : Handle → Prop} {T : Nat → Nat → Prop}
    (archs : ∀ {h : Handle}, P h → h.archs = as)
    (down : ∀ {i : Nat} {l : Arch} {t : Nat}, as[i + 1]? = some l → T i t → T (i + 1) (l.intervalForWrite t))
    (store : ∀ {h h' : Handle} {i : Nat} {a : Arch} {t : Nat} (v : Val), P h → as[i]? = some a → T i t →
      h.store a ⟨t, v⟩ = .ok h' → P h') :
    UpdRule o as (fun _ => True) P T :=
  ⟨archs, down, fun _ _ => Post.trivial, fun _ _ _ _ => Post.trivial, fun _ _ => Post.trivial,
    fun v hP ha ht => Post.of_forall fun _ hs => store v hP ha ht hs⟩

section walk
variable {o : FOps} {as : List Arch} {E : Fault → Prop} {P : Handle → Prop} {T : Nat → Nat → Prop}

theorem propagateOne_post (r : UpdRule o as E P T) {i : Nat} {a aH : Arch} {t : Nat}
    (hP : P h) (ha : as[i]? = some a) (haH : as[i - 1]? = some aH) (ht : T i t) :
    Post E (fun r => P r.1) (propagateOne o h a aH t) := by
  unfold propagateOne
  have hf := r.fetch hP ha haH ht
  cases hfe : h.fetchRawPoints aH t (tsAdd t a.step) with
  | error e => exact hf.of_error hfe
  | ok pts =>
    dsimp only
    split
    · exact hP
    · rename_i hne
      split
      · exact hP
      · have hg := r.agg (h := h) (vs := filterValid aH.step (aH.intervalForWrite t) pts) hP
          (fun e => hne (by rw [e]; rfl))
        cases hge : aggregate o h.hdr.agg (filterValid aH.step (aH.intervalForWrite t) pts) with
        | error e => exact hg.of_error hge
        | ok v =>
          -- `hs` speaks of `h.store`, the goal of the same two steps written out: case on both at once
          have hs := r.store v hP ha ht
          unfold Handle.store at hs
          revert hs
          dsimp only
          cases h.getPointOffset t a with
          | error e => exact id
          | ok off =>
            dsimp only
            cases h.putPointAt ⟨t, v⟩ off <;> exact id

theorem propagateLoop_post (r : UpdRule o as E P T) {i : Nat} {a aH : Arch}
    (ha : as[i]? = some a) (haH : as[i - 1]? = some aH) {ts acc : List Nat}
    (hP : P h) (hts : ∀ t ∈ ts, T i t) (hacc : ∀ x ∈ acc, T (i + 1) x) :
    Post E (fun r => P r.1 ∧ ∀ x ∈ r.2, T (i + 1) x) (propagateLoop o h a aH as[i + 1]? acc ts) := by
  induction ts generalizing h acc with
  | nil => exact ⟨hP, fun x hx => hacc x (by simpa using hx)⟩
  | cons t ts ih =>
    rw [propagateLoop_cons]
    have h1 := propagateOne_post r hP ha haH (hts t (by simp))
    cases h1e : propagateOne o h a aH t with
    | error e => exact h1.of_error h1e
    | ok res =>
      exact ih (h1.of_ok h1e) (fun x hx => hts x (by simp [hx]))
        (nextAcc_all hacc fun l hl => r.down hl (hts t (by simp)))

theorem propagate_post (r : UpdRule o as E P T) {k : Nat} {ts : List Nat}
    (hP : P h) (hk : ¬ k < as.length → E (.panic "index out of range")) (hts : ∀ t ∈ ts, T k t) :
    Post E (fun r => P r.1 ∧ ∀ x ∈ r.2, T (k + 1) x) (propagate o h k ts) := by
  unfold propagate
  rw [r.archs hP]
  split
  · exact ⟨hP, by simp⟩
  · split
    · rename_i a aH ha haH
      have hb := r.base hP ha
      cases hbe : h.baseInterval a with
      | error e => exact hb.of_error hbe
      | ok _ => exact propagateLoop_post r ha haH hP hts (by simp)
    · rename_i hnone
      refine hk fun hlt => hnone _ _ (List.getElem?_eq_getElem hlt) (List.getElem?_eq_getElem (by omega))

theorem propagateChainLoop_post (r : UpdRule o as E P T) (fuel : Nat) {low : Nat} {ts : List Nat}
    (hP : P h) (hts : ∀ t ∈ ts, T low t) : Post E P (propagateChainLoop o fuel h low ts) := by
  induction fuel generalizing h low ts with
  | zero => exact hP
  | succ fuel ih =>
    simp only [propagateChainLoop]
    split
    · rename_i hc
      have h1 := propagate_post r hP (fun hn => absurd (r.archs hP ▸ hc.1) hn) hts
      cases h1e : propagate o h low ts with
      | error e => exact h1.of_error h1e
      | ok res => exact ih (h1.of_ok h1e).1 (h1.of_ok h1e).2
    · exact hP

/-- **the chain**: the times of the first level are aligned times of the points written -/
theorem propagateChain_post (r : UpdRule o as E P T) {k : Nat} {aligned : List Point} (hP : P h)
    (init : ∀ l, as[k + 1]? = some l → ∀ p ∈ aligned, T (k + 1) (l.intervalForWrite p.t)) :
    Post E P (propagateChain o h k aligned) := by
  unfold propagateChain
  dsimp only
  split
  · exact hP
  · rename_i l hl
    refine propagateChainLoop_post r _ hP fun t ht => ?_
    rw [C02S.timesToPropagate_dedup, C02S.mem_dedupAdj, List.map_map] at ht
    obtain ⟨p, hp, rfl⟩ := List.mem_map.1 ht
    exact init l (r.archs hP ▸ hl) p hp

/-- the archive a single update writes: "best", or the one named -/
def C02S.routed (h : Handle) (k : Int) (t now : Nat) : Nat :=
  if k = -1 then h.findBestArchive t now else k.toNat

open C02S (routed)

theorem C02S.routed_lt {k : Int} (hne : h.archs ≠ []) (hk : k = -1 ∨ (0 ≤ k ∧ k < h.archs.length))
    (t now : Nat) : routed h k t now < h.archs.length := by
  have := findBestFrom_lt (tsSub now t) 0 hne
  unfold routed findBestArchive
  split <;> omega

theorem updatePoint_eq (o : FOps) (h : Handle) (k : Int) (t : Nat) (v : Val) (now : Nat) :
    h.updatePoint o k t v now =
      if t ≤ tsAdd now (- h.hdr.maxRet) ∨ now < t then .error (.err .notCovered) else
      if k < -1 then .error (.panic "index out of range") else
      match h.archs[routed h k t now]? with
      | none => .error (.panic "index out of range")
      | some a =>
        match h.store a ⟨a.intervalForWrite t, v⟩ with
        | .error e => .error e
        | .ok h' => propagateChain o h' (routed h k t now) [⟨a.intervalForWrite t, v⟩] := by
  unfold updatePoint Handle.store
  have e : (if k = -1 then ((h.findBestArchive t now : Nat) : Int) else k) < 0 ↔ k < -1 := by split <;> omega
  have et : (if k = -1 then ((h.findBestArchive t now : Nat) : Int) else k).toNat = routed h k t now := by
    unfold routed; split <;> simp
  simp only [e, et]
  cases h.archs[routed h k t now]? with
  | none => rfl
  | some a => dsimp only; cases h.getPointOffset (a.intervalForWrite t) a <;> rfl

theorem updatePoint_eq_ok {k : Int} {t : Nat} {v : Val} {now : Nat}
    (hp : h.updatePoint o k t v now = .ok h') :
    ¬ (t ≤ tsAdd now (- h.hdr.maxRet) ∨ now < t) ∧
    ∃ a off hm, h.archs[routed h k t now]? = some a ∧
      h.getPointOffset (a.intervalForWrite t) a = .ok off ∧
      h.putPointAt ⟨a.intervalForWrite t, v⟩ off = .ok hm ∧
      propagateChain o hm (routed h k t now) [⟨a.intervalForWrite t, v⟩] = .ok h' := by
  rw [updatePoint_eq] at hp
  split at hp
  · cases hp
  refine ⟨‹_›, ?_⟩
  split at hp
  · cases hp
  split at hp
  · cases hp
  rename_i a ha
  split at hp
  · cases hp
  rename_i hm hs
  obtain ⟨off, hg, hput⟩ := store_ok_iff.1 hs
  exact ⟨a, off, hm, ha, hg, hput, hp⟩

/-- **⟦UpdatePointForArchive⟧**: `hw` is the property's fact about the direct write.  The
    index panic is excluded for "best" on a non-empty list and for an id in the list. -/
theorem updatePoint_post (r : UpdRule o as E P T) {k : Int} {t : Nat} {v : Val} {now : Nat} (hP : P h)
    (hacc : (t ≤ tsAdd now (- h.hdr.maxRet) ∨ now < t) → E (.err .notCovered))
    (hid : ¬ (as ≠ [] ∧ (k = -1 ∨ (0 ≤ k ∧ k < as.length))) → E (.panic "index out of range"))
    (hw : ∀ a : Arch, as[routed h k t now]? = some a → Post E P (h.store a ⟨a.intervalForWrite t, v⟩))
    (init : ∀ a l : Arch, as[routed h k t now]? = some a → as[routed h k t now + 1]? = some l →
      T (routed h k t now + 1) (l.intervalForWrite (a.intervalForWrite t))) :
    Post E P (h.updatePoint o k t v now) := by
  obtain rfl := r.archs hP
  rw [updatePoint_eq]
  split
  · exact hacc ‹_›
  split
  · exact hid fun hok => by omega
  split
  · rename_i hnone
    exact hid fun hok => absurd (C02S.routed_lt hok.1 hok.2 t now) (Nat.not_lt.2 (List.getElem?_eq_none_iff.1 hnone))
  · rename_i a ha
    have hs := hw a ha
    cases hse : h.store a ⟨a.intervalForWrite t, v⟩ with
    | error e => exact hs.of_error hse
    | ok hm =>
      refine propagateChain_post r (hs.of_ok hse) fun l hl p hp => ?_
      rw [List.mem_singleton.1 hp]
      exact init a l ha hl

theorem putPoints_post {a : Arch} {base : Nat} {ps : List Point}
    (step : ∀ {h : Handle}, ∀ p ∈ ps, P h → Post E P (h.putPointAt p (a.pointOffsetAt (a.pointIndex base p.t))))
    (hP : P h) : Post E P (putPoints h a base ps) := by
  induction ps generalizing h with
  | nil => exact hP
  | cons p ps ih =>
    simp only [putPoints]
    have h1 := step p List.mem_cons_self hP
    cases h1e : h.putPointAt p (a.pointOffsetAt (a.pointIndex base p.t)) with
    | error e => exact h1.of_error h1e
    | ok hm => exact ih (fun q hq => step q (List.mem_cons_of_mem p hq)) (h1.of_ok h1e)

/-- the direct writes of ⟦archiveUpdateMany⟧: the base interval is read once, before the first -/
def Handle.putAligned (h : Handle) (a : Arch) (aligned : List Point) : R Handle :=
  match h.baseInterval a with
  | .error e => .error e
  | .ok base0 =>
    match (if base0 = 0 then aligned.head?.map (·.t) else some base0) with
    | none => .error (.panic "index out of range")
    | some base => putPoints h a base aligned

theorem Handle.putAligned_ok_iff {a : Arch} {aligned : List Point} :
    h.putAligned a aligned = .ok h' ↔ ∃ base0 base, h.baseInterval a = .ok base0 ∧
      (if base0 = 0 then aligned.head?.map (·.t) else some base0) = some base ∧
      putPoints h a base aligned = .ok h' := by
  unfold Handle.putAligned
  cases h.baseInterval a with
  | error e => simp
  | ok base0 =>
    dsimp only
    cases hb : (if base0 = 0 then aligned.head?.map (·.t) else some base0) <;> simp [hb]

theorem Handle.putAligned_post {a : Arch} {aligned : List Point} (hne : aligned ≠ [])
    (hb : Post E (fun _ => True) (h.baseInterval a)) (hw : ∀ base, Post E P (putPoints h a base aligned)) :
    Post E P (h.putAligned a aligned) := by
  unfold Handle.putAligned
  cases hbe : h.baseInterval a with
  | error e => exact hb.of_error hbe
  | ok base0 =>
    dsimp only
    split
    · rename_i hnone
      cases aligned with
      | nil => exact absurd rfl hne
      | cons d rest => split at hnone <;> simp at hnone
    · exact hw _

theorem archiveUpdateMany_eq (o : FOps) (h : Handle) (ps : List Point) (k : Nat) :
    archiveUpdateMany o h ps k =
      match h.archs[k]? with
      | none => .error (.panic "index out of range")
      | some a =>
        match h.putAligned a (alignPoints a ps) with
        | .error e => .error e
        | .ok h' => propagateChain o h' k (alignPoints a ps) := by
  unfold archiveUpdateMany Handle.putAligned
  cases h.archs[k]? with
  | none => rfl
  | some a =>
    dsimp only
    cases h.baseInterval a with
    | error e => rfl
    | ok base0 =>
      dsimp only
      cases (if base0 = 0 then (alignPoints a ps).head?.map (·.t) else some base0) <;> rfl

theorem archiveUpdateMany_ok_iff {ps : List Point} {k : Nat} :
    archiveUpdateMany o h ps k = .ok h' ↔ ∃ a hm, h.archs[k]? = some a ∧
      h.putAligned a (alignPoints a ps) = .ok hm ∧ propagateChain o hm k (alignPoints a ps) = .ok h' := by
  rw [archiveUpdateMany_eq]
  cases h.archs[k]? with
  | none => simp
  | some a =>
    dsimp only
    cases hw : h.putAligned a (alignPoints a ps) <;> simp [hw]

/-- **⟦archiveUpdateMany⟧**: `hw` is the property's fact about the direct writes -/
theorem archiveUpdateMany_post (r : UpdRule o as E P T) {ps : List Point} {k : Nat} (hP : P h)
    (hk : ¬ k < as.length → E (.panic "index out of range"))
    (hw : ∀ a, as[k]? = some a → Post E P (h.putAligned a (alignPoints a ps)))
    (init : ∀ (a l : Arch), as[k]? = some a → as[k + 1]? = some l →
      ∀ d ∈ alignPoints a ps, T (k + 1) (l.intervalForWrite d.t)) :
    Post E P (archiveUpdateMany o h ps k) := by
  rw [archiveUpdateMany_eq, r.archs hP]
  split
  · rename_i hnone
    exact hk fun hlt => by rw [List.getElem?_eq_getElem hlt] at hnone; cases hnone
  · rename_i a ha
    have hs := hw a ha
    cases hse : h.putAligned a (alignPoints a ps) with
    | error e => exact hs.of_error hse
    | ok hm => exact propagateChain_post r (hs.of_ok hse) fun l => init a l ha

end walk

/-! ### the batch loop, for any fact about ⟦archiveUpdateMany⟧ -/

theorem extractPoints_sub {Q : Point → Prop} {ps : List Point} (now : Nat) (mr : Int) (hps : ∀ p ∈ ps, Q p) :
    (∀ p ∈ (extractPoints ps now mr).1, Q p) ∧ (∀ p ∈ (extractPoints ps now mr).2, Q p) := by
  rw [extractPoints_eq]
  exact ⟨fun p hp => hps p (List.mem_reverse.1 ((List.takeWhile_sublist _).subset (List.mem_reverse.1 hp))),
    fun p hp => hps p (List.mem_reverse.1 ((List.dropWhile_sublist _).subset (List.mem_reverse.1 hp)))⟩

section loop
variable {o : FOps} {as : List Arch} {E : Fault → Prop} {P : Handle → Prop} {Q : Point → Prop}

theorem updateManyLoop_post {k : Int} {now : Nat} {i0 : Nat}
    (step : ∀ {h : Handle} {i : Nat} {a : Arch} {cur : List Point}, P h → i0 ≤ i → (k = -1 ∨ k = (i : Int)) →
      as[i]? = some a → cur ≠ [] → (∀ p ∈ cur, Q p) → Post E P (archiveUpdateMany o h cur i))
    {rest : List Arch} {ps : List Point} {i : Nat} (hP : P h) (hi : i0 ≤ i) (hd : as.drop i = rest)
    (hps : ∀ p ∈ ps, Q p) : Post E P (updateManyLoop o k now h ps i rest) := by
  induction rest generalizing h ps i with
  | nil => exact hP
  | cons a rest ih =>
    have hd' : as.drop (i + 1) = rest := by rw [← List.drop_drop, hd]; rfl
    have ha : as[i]? = some a := by rw [← Nat.add_zero i, ← List.getElem?_drop, hd]; rfl
    have hi' := Nat.le_succ_of_le hi
    simp only [updateManyLoop]
    by_cases hk : k ≠ -1 ∧ k ≠ (i : Int)
    · rw [if_pos hk]
      exact ih hP hi' hd' hps
    · rw [if_neg hk]
      obtain ⟨h1, h2⟩ := extractPoints_sub now a.maxRetention hps
      by_cases hne : (extractPoints ps now a.maxRetention).1.length = 0
      · rw [if_pos hne]
        exact ih hP hi' hd' h2
      · rw [if_neg hne]
        have hs := step hP hi (Decidable.or_iff_not_not_and_not.2 hk) ha (fun e => hne (by rw [e]; rfl)) h1
        cases hse : archiveUpdateMany o h (extractPoints ps now a.maxRetention).1 i with
        | error e => exact hs.of_error hse
        | ok hm => exact ih (hs.of_ok hse) hi' hd' h2

theorem updateMany_post (k : Int) (now : Nat) (archs : ∀ {h : Handle}, P h → h.archs = as)
    (step : ∀ {h : Handle} {i : Nat} {a : Arch} {cur : List Point}, P h → (k = -1 ∨ k = (i : Int)) →
      as[i]? = some a → cur ≠ [] → (∀ p ∈ cur, Q p) → Post E P (archiveUpdateMany o h cur i))
    {ps : List Point} (hP : P h) (hps : ∀ p ∈ ps, Q p) : Post E P (h.updateMany o ps k now) := by
  unfold updateMany
  rw [archs hP]
  exact updateManyLoop_post (fun hP _ => step hP) hP (Nat.le_refl 0) rfl
    fun p hp => hps p ((sortByTime_perm ps).mem_iff.1 hp)

end loop

end Wsp
