import Wsp.Proofs.Frame
namespace Wsp
open Handle C14

/-! Where a valid header places its archives. -/

theorem sumN_take_add : ∀ (as : List Arch) (i : Nat) (a : Arch), as[i]? = some a → sumN (as.take i) + a.n ≤ sumN as
  | x :: xs, 0, a, ha => by simp at ha; subst ha; simp [sumN]
  | x :: xs, i+1, a, ha => by
    have := sumN_take_add xs i a (by simpa using ha)
    simp only [List.take_succ_cons, sumN]; omega

theorem sumN_take_total (as : List Arch) (i : Nat) : sumN (as.take i) ≤ sumN as := by
  cases h : as[i]? with
  | some a => have := sumN_take_add as i a h; omega
  | none => rw [List.take_of_length_le (by simpa using h)]; exact Nat.le_refl _

theorem wfFrom_contiguous {off : Nat} {as : List Arch} (h : WFFrom off as) :
    ∀ i a, as[i]? = some a → a.offset = off + 12 * sumN (as.take i) := by
  induction as generalizing off with
  | nil => intro i a ha; simp at ha
  | cons x rest ih =>
    obtain ⟨-, ho, -, ht⟩ := (wfFrom_cons ..).1 h
    intro i a ha
    cases i with
    | zero => simp at ha; subst ha; simp [sumN, ho]
    | succ i =>
      have := ih ht i a (by simpa using ha)
      simp only [List.take_succ_cons, sumN]; omega

def Header.total (h : Header) : Nat := 16 + 12 * h.archives.length + 12 * sumN h.archives

theorem expectedFileSize_eq {h : Header} (hc : h.count = h.archives.length) :
    h.expectedFileSize = h.total := by
  unfold Header.expectedFileSize Header.total Header.size
  rw [hc]
  have (as : List Arch) (s : Nat) : as.foldl (fun sz a => sz + a.n * 12) s = s + 12 * sumN as := by
    induction as generalizing s with
    | nil => simp [sumN]
    | cons a as ih => simp only [List.foldl_cons, ih, sumN]; omega
  rw [this]; omega

theorem valid_place {h : Handle} (hv : validateArchs h.hdr.archives = true) {i : Nat} {a : Arch}
    (ha : h.archs[i]? = some a) :
    a.offset = 16 + 12 * h.hdr.archives.length + 12 * sumN (h.hdr.archives.take i) ∧
      ArchPlace (16 + 12 * h.hdr.archives.length) h.hdr.total a := by
  obtain ⟨-, hsz, hfrom⟩ := (validateArchs_true_iff _).1 hv
  have e := wfFrom_contiguous hfrom i a ha
  have := sumN_take_add h.hdr.archives i a ha
  unfold Header.total
  exact ⟨e, (wfFrom_archOK hfrom a (List.mem_of_getElem? ha)).2.1, e ▸ Nat.le_add_right _ _, by omega, hsz⟩

/-- a header that passed validation places every archive after the header and inside the
    file, below 2^32 (`hr` is not needed) -/
theorem placed_of_valid (h : Handle) (hv : validateArchs h.hdr.archives = true)
    (hr : ∀ a ∈ h.hdr.archives, ArchWF a) :
    Placed h (16 + 12 * h.hdr.archives.length) h.hdr.total := fun _ ha =>
  have ⟨_, hi⟩ := List.getElem?_of_mem ha
  (valid_place hv hi).2

/-- in a validated header the archives after index `k` start at or after the end of archive `k`
    (`hr` is not needed) -/
theorem placedFrom_of_valid (h : Handle) (hv : validateArchs h.hdr.archives = true)
    (hr : ∀ a ∈ h.hdr.archives, ArchWF a) (k : Nat) (a : Arch) (ha : h.archs[k]? = some a) :
    PlacedFrom h (k + 1) (a.offset + 12 * a.n) h.hdr.total := by
  intro i b hi hb
  obtain ⟨eb, pb⟩ := valid_place hv hb
  have := sumN_take_add (h.hdr.archives.take i) k a (by rw [List.getElem?_take_of_lt (by omega)]; exact ha)
  rw [List.take_take, Nat.min_eq_left (by omega)] at this
  exact ⟨pb.npos, by rw [(valid_place hv ha).1, eb]; omega, pb.hi, pb.fits⟩
end Wsp
