import Wsp.Proofs.Zone
import Wsp.Model.World
import Wsp.Proofs.Update
import Wsp.Proofs.OpenLemmas
namespace Wsp
open Handle C14

/-! Where writes land: every write of the library goes through `putPointAt` at an offset
    inside the archive region of a valid header, so the header bytes and the length of
    the view never change. -/

variable {H total : Nat} {h h' : Handle} {a : Arch}

structure ArchPlace (H total : Nat) (a : Arch) : Prop where
  npos : 0 < a.n
  lo : H ≤ a.offset
  hi : a.offset + 12 * a.n ≤ total
  fits : total ≤ 4294967295

theorem ArchPlace.fit (pl : ArchPlace H total a) : a.offset + 12 * a.n ≤ 4294967295 :=
  Nat.le_trans pl.hi pl.fits

def Frame (H : Nat) (h h' : Handle) : Prop :=
  h'.hdr = h.hdr ∧ h'.view.length = h.view.length ∧ h'.view.take H = h.view.take H

theorem Frame.refl (H : Nat) (h : Handle) : Frame H h h := ⟨rfl, rfl, rfl⟩

theorem Frame.trans {H : Nat} {a b c : Handle} (h1 : Frame H a b) (h2 : Frame H b c) : Frame H a c :=
  ⟨h2.1.trans h1.1, h2.2.1.trans h1.2.1, h2.2.2.trans h1.2.2⟩

theorem Frame.archs (f : Frame H h h') : h'.archs = h.archs := congrArg Header.archives f.1

theorem putPointAt_frame {p : Point} {off : Nat} (hoff : H ≤ off)
    (hp : h.putPointAt p off = .ok h') : Frame H h h' := by
  obtain ⟨hh, hl, ht, -⟩ := putPointAt_parts hp
  exact ⟨hh, hl, by rw [← Nat.min_eq_left hoff, ← List.take_take, ht, List.take_take]⟩

theorem putPointAt_len {p : Point} {off : Nat} (hput : h.putPointAt p off = .ok h') :
    h'.view.length = h.view.length :=
  (putPointAt_parts hput).2.1

theorem pointIndex_range (a : Arch) (hn : 0 < a.n) (base iv : Nat) :
    0 ≤ a.pointIndex base iv ∧ a.pointIndex base iv < a.n := by
  unfold Arch.pointIndex
  rw [floorMod_pos _ _ (by omega)]
  exact ⟨Int.emod_nonneg _ (by omega), Int.emod_lt_of_pos _ (by omega)⟩

theorem pointOffsetAt_ideal {idx : Int} (h0 : 0 ≤ idx) (h1 : idx < a.n)
    (hfit : a.offset + 12 * a.n ≤ 4294967295) :
    a.pointOffsetAt idx = a.offset + 12 * idx.toNat := by
  obtain ⟨n, rfl⟩ := Int.eq_ofNat_of_zero_le h0
  unfold Arch.pointOffsetAt
  rw [u32_of_nat n (by omega)]
  exact u32_add_mul12 a.offset n (by omega)

theorem pointOffset_in_archive (pl : ArchPlace H total a) (base iv : Nat) :
    H ≤ a.pointOffsetAt (a.pointIndex base iv) := by
  obtain ⟨h0, h1⟩ := pointIndex_range a pl.npos base iv
  rw [pointOffsetAt_ideal h0 h1 pl.fit]
  have := pl.lo
  omega

theorem Inv.getPointOffset_in_ring (hn : 0 < a.n) (hfit : a.offset + 12 * a.n ≤ 4294967295)
    {t off : Nat} (hg : h.getPointOffset t a = .ok off) : ∃ i, i < a.n ∧ off = a.offset + 12 * i := by
  unfold getPointOffset at hg
  split at hg
  · cases hg
  · rename_i base _
    obtain ⟨h0, h1⟩ := pointIndex_range a hn base t
    split at hg <;> cases hg
    · exact ⟨0, hn, rfl⟩
    · exact ⟨_, by omega, pointOffsetAt_ideal h0 h1 hfit⟩

theorem getPointOffset_ge (pl : ArchPlace H total a)
    {start off : Nat} (hg : h.getPointOffset start a = .ok off) :
    H ≤ off := by
  obtain ⟨i, hi, rfl⟩ := Inv.getPointOffset_in_ring pl.npos pl.fit hg
  have := pl.lo
  omega

def Placed (h : Handle) (H total : Nat) : Prop := ∀ a ∈ h.archs, ArchPlace H total a

theorem Placed.of_frame {H' : Nat} (pl : Placed h H total) (f : Frame H' h h') :
    Placed h' H total := fun a ha => pl a (f.archs ▸ ha)

def PlacedFrom (h : Handle) (low H total : Nat) : Prop :=
  ∀ i a, low ≤ i → h.archs[i]? = some a → ArchPlace H total a

theorem Placed.from (pl : Placed h H total) (low : Nat) : PlacedFrom h low H total :=
  fun _ a _ ha => pl a (List.mem_of_getElem? ha)

theorem PlacedFrom.mono {low low' : Nat} (pl : PlacedFrom h low H total) (hle : low ≤ low') :
    PlacedFrom h low' H total := fun i a hi ha => pl i a (by omega) ha

theorem PlacedFrom.of_frame {low H' : Nat} (pl : PlacedFrom h low H total) (f : Frame H' h h') :
    PlacedFrom h' low H total := fun i a hi ha => pl i a hi (f.archs ▸ ha)

theorem store_frame {p : Point} (pl : ArchPlace H total a)
    (hs : h.store a p = .ok h') : Frame H h h' := by
  obtain ⟨off, hg, hput⟩ := store_ok_iff.1 hs
  exact putPointAt_frame (getPointOffset_ge pl hg) hput

theorem putPoints_frame (pl : ArchPlace H total a) {base : Nat} {ps : List Point}
    (hp : putPoints h a base ps = .ok h') : Frame H h h' :=
  (putPoints_post (E := fun _ => True) (fun p _ f => .of_forall fun _ hput =>
    f.trans (putPointAt_frame (pointOffset_in_archive pl base p.t) hput)) (Frame.refl H h)).of_ok hp

theorem putAligned_frame {aligned : List Point} (pl : ArchPlace H total a)
    (hp : h.putAligned a aligned = .ok h') : Frame H h h' := by
  obtain ⟨_, base, _, _, hput⟩ := putAligned_ok_iff.1 hp
  exact putPoints_frame pl hput

/-- **the write frame as a rule of the update path**: with the archives from `low` on placed
    at or after `H`, every store at a level from `low` on keeps `Frame H h0` -/
theorem frameRule (o : FOps) {low : Nat} {h0 : Handle} (pl : PlacedFrom h0 low H total) :
    UpdRule o h0.archs (fun _ => True) (Frame H h0) (fun i _ => low ≤ i) :=
  .of_store Frame.archs (fun _ hi => Nat.le_succ_of_le hi)
    fun _ f ha hi hs => f.trans (store_frame (pl _ _ hi (f.archs ▸ ha)) hs)

/-! Propagation started at archive `low` writes only into archives `low, low+1, …`, so
    everything in front of archive `low` — the header and all finer archives — is untouched. -/

theorem propagateChainLoop_frameFrom {o : FOps} {fuel low : Nat} {ts : List Nat}
    (pl : PlacedFrom h low H total) (hp : propagateChainLoop o fuel h low ts = .ok h') : Frame H h h' :=
  (propagateChainLoop_post (frameRule o pl) fuel (Frame.refl H h) fun _ _ => Nat.le_refl low).of_ok hp

/-- **propagation below archive `k` leaves archive `k` and everything before it alone** -/
theorem propagateChain_frameFrom (o : FOps) {H total : Nat} (h h' : Handle) (k : Nat)
    (pl : PlacedFrom h (k + 1) H total) (aligned : List Point)
    (hp : propagateChain o h k aligned = .ok h') : Frame H h h' :=
  (propagateChain_post (frameRule o pl) (Frame.refl H h) fun _ _ _ _ => Nat.le_refl (k + 1)).of_ok hp

/-- a batch for archive `k` stays behind everything in front of archive `k` -/
theorem archiveUpdateMany_frameFrom {o : FOps} {k : Nat} (pl : PlacedFrom h k H total)
    {ps : List Point} (hp : archiveUpdateMany o h ps k = .ok h') : Frame H h h' :=
  (archiveUpdateMany_post (frameRule o pl) (Frame.refl H h) (fun _ => trivial)
    (fun a ha => .of_forall fun _ hw => putAligned_frame (pl k a (Nat.le_refl k) ha) hw)
    fun _ _ _ _ _ _ => Nat.le_succ k).of_ok hp

theorem propagate_frame (o : FOps) {H total : Nat} (h h' : Handle) (pl : Placed h H total) (k : Nat)
    (ts out : List Nat) (hp : propagate o h k ts = .ok (h', out)) : Frame H h h' :=
  ((propagate_post (frameRule o (pl.from 0)) (Frame.refl H h) (fun _ => trivial) fun _ _ => Nat.zero_le k).of_ok hp).1

theorem updatePoint_frame (o : FOps) {H total : Nat} (h h' : Handle) (pl : Placed h H total)
    (k : Int) (t : Nat) (v : Val) (now : Nat) (hp : h.updatePoint o k t v now = .ok h') : Frame H h h' :=
  (updatePoint_post (frameRule o (pl.from 0)) (Frame.refl H h) (fun _ => trivial) (fun _ => trivial)
    (fun a ha => .of_forall fun _ hs => store_frame (pl a (List.mem_of_getElem? ha)) hs)
    fun _ _ _ _ => Nat.zero_le _).of_ok hp

theorem updateManyLoop_frameFrom {o : FOps} {k : Int} {now H total i : Nat} {ps : List Point}
    {as : List Arch} (pl : PlacedFrom h i H total) (hd : h.archs.drop i = as)
    (hp : updateManyLoop o k now h ps i as = .ok h') : Frame H h h' :=
  (updateManyLoop_post (P := Frame H h) (Q := fun _ => True)
    (fun f hi _ _ _ _ => .of_forall fun _ hu => f.trans (archiveUpdateMany_frameFrom ((pl.of_frame f).mono hi) hu))
    (Frame.refl H h) (Nat.le_refl i) hd fun _ _ => trivial).of_ok hp

theorem updateMany_frame (o : FOps) {H total : Nat} (h h' : Handle) (pl : Placed h H total)
    (ps : List Point) (k : Int) (now : Nat) (hp : h.updateMany o ps k now = .ok h') : Frame H h h' :=
  updateManyLoop_frameFrom (pl.from 0) rfl hp

end Wsp
