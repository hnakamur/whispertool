import Wsp.Model.Codec
namespace Wsp

/-! Round trips of the big-endian words, and the uint32/int32 conversions where they do not wrap. -/

@[simp] theorem be32_length (n : Nat) : (be32 n).length = 4 := by simp [be32]

/-- four big-endian digits in Horner form, where each quotient by 256 strips one digit (`omega` on the four
    digits at once is dear) -/
theorem horner256 (a b c d : Nat) :
    a * 16777216 + b * 65536 + c * 256 + d = ((a * 256 + b) * 256 + c) * 256 + d := by
  simp only [Nat.add_mul, Nat.mul_assoc, Nat.reduceMul]

theorem digits32 (n : Nat) (h : n < 4294967296) :
    n / 16777216 % 256 * 16777216 + n / 65536 % 256 * 65536 + n / 256 % 256 * 256 + n % 256 = n := by
  rw [Nat.mod_eq_of_lt (Nat.div_lt_of_lt_mul h : n / 16777216 < 256), horner256,
    show (16777216 : Nat) = 256 * 256 * 256 from rfl, show (65536 : Nat) = 256 * 256 from rfl,
    ← Nat.div_div_eq_div_mul, ← Nat.div_div_eq_div_mul, Nat.div_add_mod', Nat.div_add_mod', Nat.div_add_mod']

theorem de32_be32_append (n : Nat) (h : n < 4294967296) (rest : Bytes) :
    de32 (be32 n ++ rest) = n := by
  simp only [be32, List.cons_append, List.nil_append, de32, UInt8.toNat_ofNat', Nat.mod_mod]
  exact digits32 n h

theorem de32_be32 (n : Nat) (h : n < 4294967296) : de32 (be32 n) = n := by
  simpa using de32_be32_append n h []

theorem byte_split (x d : Nat) (hd : d < 256) : (x * 256 + d) / 256 = x ∧ (x * 256 + d) % 256 = d := by omega

theorem C14.be32_de32_take (b : Bytes) (h : 4 ≤ b.length) : be32 (de32 b) = b.take 4 := by
  rcases b with _ | ⟨a, _ | ⟨b, _ | ⟨c, _ | ⟨d, rest⟩⟩⟩⟩
  iterate 4 exact absurd h (by simp)
  simp only [de32, be32, List.take_succ_cons, List.take_zero]
  obtain ⟨q0, r0⟩ := byte_split ((a.toNat * 256 + b.toNat) * 256 + c.toNat) d.toNat d.toNat_lt
  obtain ⟨q1, r1⟩ := byte_split (a.toNat * 256 + b.toNat) c.toNat c.toNat_lt
  obtain ⟨q2, r2⟩ := byte_split a.toNat b.toNat b.toNat_lt
  rw [horner256, show (16777216 : Nat) = 256 * 256 * 256 from rfl, show (65536 : Nat) = 256 * 256 from rfl,
    ← Nat.div_div_eq_div_mul, ← Nat.div_div_eq_div_mul, q0, q1, q2, r0, r1, r2, Nat.mod_eq_of_lt a.toNat_lt]
  simp only [UInt8.ofNat_toNat]

theorem be32_de32_append (b : Bytes) (h : 4 ≤ b.length) : be32 (de32 b) ++ b.drop 4 = b := by
  rw [C14.be32_de32_take b h, List.take_append_drop]

theorem be32_de32_drop (b : Bytes) (k j : Nat) (hj : j = k + 4) (h : j ≤ b.length) :
    be32 (de32 (b.drop k)) ++ b.drop j = b.drop k := by
  subst hj
  rw [← List.drop_drop]
  exact be32_de32_append _ (by simp; omega)

theorem de32_lt (b : Bytes) : de32 b < 4294967296 := by
  unfold de32
  split
  · rename_i a b c d _
    have := a.toNat_lt; have := b.toNat_lt; have := c.toNat_lt; have := d.toNat_lt
    omega
  · omega

theorem length_take_lt_iff {α} {l : List α} {k n : Nat} (h : n ≤ l.length) : (l.take k).length < n ↔ k < n := by
  rw [← Nat.not_le, ← Nat.not_le, List.length_take, Nat.le_min, and_iff_left h]

theorem length_drop_lt_iff {α} {l : List α} {k m : Nat} (h : k ≤ l.length) :
    (l.drop k).length < m ↔ l.length < k + m := by
  rw [List.length_drop]; exact Nat.sub_lt_iff_lt_add' h

theorem de32_take {l : Bytes} {k : Nat} (h : 4 ≤ k) : de32 (l.take k) = de32 l := by
  obtain ⟨k', rfl⟩ : ∃ k', k = k' + 4 := ⟨k - 4, by omega⟩
  rcases l with _ | ⟨a, _ | ⟨b, _ | ⟨c, _ | ⟨d, r⟩⟩⟩⟩ <;> simp [de32]

theorem de32_drop_take {l : Bytes} {j k : Nat} (h : j + 4 ≤ k) :
    de32 ((l.take k).drop j) = de32 (l.drop j) := by
  rw [List.drop_take]; exact de32_take (by omega)

/-- dropping past an encoded word; with the numeral `k + 4` matched by `simp`, this is every
    `drop 4 / 8 / 12 / 16` of a sequence of encoded words -/
@[simp] theorem drop_be32_append (n k : Nat) (rest : Bytes) : (be32 n ++ rest).drop (k + 4) = rest.drop k := by
  simp [be32]

theorem drop4_be32_append' (n : Nat) (rest : Bytes) : List.drop 4 (be32 n ++ rest) = rest := by simp

@[simp] theorem be64_length (v : Val) : (be64 v).length = 8 := by simp [be64]

theorem de64_be64_append (v : Val) (rest : Bytes) : de64 (be64 v ++ rest) = v := by
  have hv := v.toNat_lt
  simp only [de64, be64, List.append_assoc]
  rw [de32_be32_append _ (by omega), drop4_be32_append', de32_be32_append _ (by omega),
    Nat.div_add_mod', UInt64.ofNat_toNat]

@[simp] theorem drop_be64_append (v : Val) (k : Nat) (rest : Bytes) : (be64 v ++ rest).drop (k + 8) = rest.drop k := by
  simp [be64]

theorem drop8_be64_append (v : Val) (rest : Bytes) : (be64 v ++ rest).drop 8 = rest := by simp

@[simp] theorem be64Nat_length (n : Nat) : (be64Nat n).length = 8 := by simp [be64Nat]

theorem de64Nat_be64Nat_append (n : Nat) (h : n < 18446744073709551616) (rest : Bytes) :
    de64Nat (be64Nat n ++ rest) = n := by
  simp only [de64Nat, be64Nat, List.append_assoc]
  rw [de32_be32_append _ (Nat.mod_lt _ (by decide)), drop4_be32_append', de32_be32_append _ (Nat.mod_lt _ (by decide)),
    Nat.mod_eq_of_lt (Nat.div_lt_of_lt_mul h), Nat.div_add_mod']

theorem u32_id (x : Int) (h0 : 0 ≤ x) (h1 : x < 4294967296) : (u32 x : Int) = x := by
  rw [u32, Int.toNat_of_nonneg (Int.emod_nonneg _ (by decide)), Int.emod_eq_of_lt h0 h1]

theorem u32_of_nat (n : Nat) (h : n < 4294967296) : u32 (n : Int) = n := by
  rw [u32, Int.emod_eq_of_lt (Int.natCast_nonneg n) (by omega), Int.toNat_natCast]

theorem i32_id (x : Int) (h0 : -2147483648 ≤ x) (h1 : x < 2147483648) : i32 x = x := by
  rw [i32, Int.emod_eq_of_lt (by omega) (by omega), Int.add_sub_cancel]

/-- the `uint32` sum `off + uint32(n * 12)` of the Go code does not wrap below 2^32 -/
theorem u32_add_mul12 (off n : Nat) (h : off + 12 * n ≤ 4294967295) :
    u32 ((off : Int) + (u32 ((n : Int) * 12) : Int)) = off + 12 * n := by
  have e : (n : Int) * 12 = ((12 * n : Nat) : Int) := by omega
  rw [e, u32_of_nat _ (by omega), ← Int.natCast_add, u32_of_nat _ (by omega)]

theorem i32_u32 (d : Int) (h1 : -2147483648 ≤ d) (h2 : d < 2147483648) : i32 ((u32 d : Nat) : Int) = d := by
  rw [i32, u32, Int.toNat_of_nonneg (Int.emod_nonneg _ (by decide)), Int.emod_add_emod,
    Int.emod_eq_of_lt (by omega) (by omega), Int.add_sub_cancel]

theorem u32_i32 (n : Nat) (h : n < 4294967296) : u32 (i32 (n : Int)) = n := by
  rw [u32, i32, Int.emod_sub_emod, Int.add_sub_cancel, Int.emod_eq_of_lt (Int.natCast_nonneg n) (by omega),
    Int.toNat_natCast]

theorem i32_range (x : Int) : -2147483648 ≤ i32 x ∧ i32 x < 2147483648 := by unfold i32; omega

theorem u32_lt (x : Int) : u32 x < 4294967296 := by unfold u32; omega

end Wsp
