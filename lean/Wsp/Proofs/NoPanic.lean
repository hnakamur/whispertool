import Wsp.Props.C02
namespace Wsp
open Handle C14

/-! No step of the read or write path panics on a handle with a valid header.  The
    `Fault.panic` results of the model are: an archive id that is not in the list, the first
    element of an empty batch (⟦archiveUpdateMany⟧ on a never-written archive), `aggregate` of
    an empty list, `make` with a negative length, an invalid aggregation method — each
    excluded below. -/

def IsPanic {α} (r : R α) : Prop := ∃ w, r = .error (.panic w)

theorem np_ok {α} (a : α) : ¬ IsPanic (.ok a : R α) := by rintro ⟨_, ⟨⟩⟩

theorem np_of_error {α β} {r : R α} {e : Fault} (hn : ¬ IsPanic r) (hr : r = .error e) :
    ¬ IsPanic (.error e : R β) := by
  rintro ⟨w, ⟨⟩⟩; exact hn ⟨w, hr⟩

theorem np_err {α} (k : ErrKind) : ¬ IsPanic (.error (.err k) : R α) := by rintro ⟨_, ⟨⟩⟩

variable {h : Handle} {a : Arch}

theorem readAt_np {v : Bytes} {o l : Nat} : ¬ IsPanic (readAt v o l) := by
  unfold readAt
  split
  · exact np_err _
  · exact np_ok _

theorem writeAt_np {v : Bytes} {o : Nat} {b : Bytes} : ¬ IsPanic (writeAt v o b) := by
  unfold writeAt
  split
  · exact np_err _
  · exact np_ok _

theorem baseInterval_np : ¬ IsPanic (h.baseInterval a) := by
  unfold baseInterval
  cases hr : readAt h.view a.offset 4 with
  | error e => exact np_of_error readAt_np hr
  | ok b => exact np_ok _

theorem readPointAt_np {off : Nat} : ¬ IsPanic (h.readPointAt off) := by
  unfold readPointAt
  cases hr : readAt h.view off 12 with
  | error e => exact np_of_error readAt_np hr
  | ok b => exact np_ok _

theorem putPointAt_np {p : Point} {off : Nat} : ¬ IsPanic (h.putPointAt p off) := by
  unfold putPointAt
  cases hr : writeAt h.view off (encPoint p) with
  | error e => exact np_of_error writeAt_np hr
  | ok b => exact np_ok _

theorem readPoints_np {offs : List Nat} : ¬ IsPanic (h.readPoints offs) := by
  induction offs with
  | nil => exact np_ok _
  | cons o os ih =>
    simp only [readPoints]
    cases h1 : h.readPointAt o with
    | error e => exact np_of_error readPointAt_np h1
    | ok p =>
      cases h2 : h.readPoints os with
      | error e => exact np_of_error ih h2
      | ok ps => exact np_ok _

theorem getPointOffset_np {t : Nat} : ¬ IsPanic (h.getPointOffset t a) := by
  unfold getPointOffset
  cases h1 : h.baseInterval a with
  | error e => exact np_of_error baseInterval_np h1
  | ok b => dsimp only; split <;> exact np_ok _

/-- ⟦fetchRawPoints⟧ panics only on a negative count -/
theorem fetchRawPoints_np {fI uI : Nat} (hc : 0 ≤ Int.tdiv (tsSub uI fI) a.step) :
    ¬ IsPanic (h.fetchRawPoints a fI uI) := by
  unfold fetchRawPoints
  cases h1 : h.baseInterval a with
  | error e => exact np_of_error baseInterval_np h1
  | ok b =>
    dsimp only
    rw [if_neg (by omega)]
    split
    · exact np_err _
    · cases h2 : h.readPoints (rawOffsets a b fI uI) with
      | error e => exact np_of_error readPoints_np h2
      | ok ps => exact np_ok _

theorem fetchExec_np {p : FetchPlan} (hc : 0 ≤ Int.tdiv (tsSub p.untilI p.fromI) p.a.step) :
    ¬ IsPanic (h.fetchExec p) := by
  unfold fetchExec
  cases hb : h.baseInterval p.a with
  | error e => exact np_of_error baseInterval_np hb
  | ok base =>
    dsimp only
    split
    · exact np_ok _
    · cases hf : h.fetchRawPoints p.a p.fromI p.untilI with
      | error e => exact np_of_error (fetchRawPoints_np hc) hf
      | ok pts => exact np_ok _

/-- the window of one propagation step never has a negative count -/
theorem propagate_count {aHigh : Arch} {t : Nat} (hs : 0 < a.step) (hsl : a.step < 2147483648)
    (ht : t < 4294967296) (hh : 0 < aHigh.step) :
    0 ≤ Int.tdiv (tsSub (tsAdd t a.step) t) aHigh.step := by
  rw [C02.propagate_window_count a t hs hsl ht, Int.tdiv_eq_ediv_of_nonneg (by omega)]
  exact Int.ediv_nonneg (by omega) (by omega)

structure HdrOK (h : Handle) : Prop where
  agg : validAgg h.hdr.agg = true
  steps : ∀ a ∈ h.archs, 0 < a.step ∧ a.step < 2147483648

theorem intervalForWrite_lt (a : Arch) (t : Nat) : a.intervalForWrite t < 4294967296 := u32_lt _

/-- the loop never drops its accumulator -/
theorem alignPointsLoop_ne_nil (a : Arch) (ps : List Point) {acc : List Point} (prev : Nat) (first : Bool)
    (hne : acc ≠ []) : alignPointsLoop a acc prev first ps ≠ [] := by
  induction ps generalizing acc prev first with
  | nil => simpa [alignPointsLoop] using hne
  | cons p ps ih =>
    simp only [alignPointsLoop]
    split
    · cases acc with
      | nil => exact absurd rfl hne
      | cons last acc' => exact ih _ _ (List.cons_ne_nil _ _)
    · exact ih _ _ (List.cons_ne_nil _ _)

theorem alignPoints_ne_nil (a : Arch) {ps : List Point} (hne : ps ≠ []) : alignPoints a ps ≠ [] := by
  cases ps with
  | nil => exact absurd rfl hne
  | cons p ps =>
    -- the first point is kept: `first` is still set
    unfold alignPoints
    simp only [alignPointsLoop, Bool.not_true, Bool.false_eq_true, false_and, if_false]
    exact alignPointsLoop_ne_nil a ps _ _ (List.cons_ne_nil _ _)

theorem Post.not_isPanic {α : Type} {P : α → Prop} {r : R α} (h : Post NotPanic P r) : ¬ IsPanic r := by
  rintro ⟨w, rfl⟩; exact h w rfl

theorem Post.of_np {α : Type} {P : α → Prop} {r : R α} (hn : ¬ IsPanic r) (hp : ∀ a, r = .ok a → P a) :
    Post NotPanic P r := by
  cases r with
  | ok a => exact hp a rfl
  | error e => exact fun w he => hn ⟨w, by rw [he]⟩

theorem store_np {p : Point} : ¬ IsPanic (h.store a p) := by
  unfold Handle.store
  cases h1 : h.getPointOffset p.t a with
  | error e => exact np_of_error getPointOffset_np h1
  | ok off => exact putPointAt_np

theorem putAligned_np {aligned : List Point} (hne : aligned ≠ []) : ¬ IsPanic (h.putAligned a aligned) :=
  (Handle.putAligned_post (P := fun _ => True) hne (.of_np baseInterval_np fun _ _ => trivial) fun _ =>
    putPoints_post (fun _ _ _ => .of_np putPointAt_np fun _ _ => trivial) trivial).not_isPanic

/-- **no panic as a rule of the update path**: on a placed handle with a valid header, for
    32-bit times, every step fails, if at all, with an error, and keeps the frame -/
theorem npRule (o : FOps) {H total : Nat} {h0 : Handle} (pl : Placed h0 H total) (ok : HdrOK h0) :
    UpdRule o h0.archs NotPanic (Frame H h0) (fun _ t => t < 4294967296) where
  archs := Frame.archs
  down := fun _ _ => intervalForWrite_lt _ _
  base := fun _ _ => .of_np baseInterval_np fun _ _ => trivial
  fetch := fun {_ _ a aH _} _ ha haH ht =>
    have sa := ok.steps a (List.mem_of_getElem? ha)
    .of_np (fetchRawPoints_np (propagate_count sa.1 sa.2 ht (ok.steps aH (List.mem_of_getElem? haH)).1)) fun _ _ => trivial
  agg := fun f hne => .of_exists (C02.aggregate_total o _ (f.1 ▸ ok.agg) _ hne) fun _ _ => trivial
  store := fun _ f ha _ => .of_np store_np fun _ hs => f.trans (store_frame (pl _ (List.mem_of_getElem? ha)) hs)

theorem propagateChain_np (o : FOps) {H total : Nat} (h : Handle) (pl : Placed h H total) (ok : HdrOK h)
    (k : Nat) (aligned : List Point) : ¬ IsPanic (propagateChain o h k aligned) :=
  (propagateChain_post (npRule o pl ok) (Frame.refl H h) fun l _ p _ => intervalForWrite_lt l p.t).not_isPanic

theorem archiveUpdateMany_np (o : FOps) {H total : Nat} {h0 h : Handle} (pl : Placed h0 H total) (ok : HdrOK h0)
    (f : Frame H h0 h) {ps : List Point} (hne : ps ≠ []) {k : Nat} (hk : k < h0.archs.length) :
    Post NotPanic (Frame H h0) (archiveUpdateMany o h ps k) :=
  archiveUpdateMany_post (npRule o pl ok) f (fun hn => absurd hk hn)
    (fun a ha => .of_np (putAligned_np (alignPoints_ne_nil a hne)) fun _ hw =>
      f.trans (putAligned_frame (pl a (List.mem_of_getElem? ha)) hw))
    fun _ l _ _ d _ => intervalForWrite_lt l d.t

/-- **UpdatePointsForArchive never panics** on a placed handle with a valid header, for any
    batch, any archive id (an id outside the list simply matches no archive) and any clock -/
theorem updateMany_np (o : FOps) {H total : Nat} (h : Handle) (pl : Placed h H total) (ok : HdrOK h)
    (ps : List Point) (k : Int) (now : Nat) : ¬ IsPanic (h.updateMany o ps k now) :=
  (updateMany_post (Q := fun _ => True) k now Frame.archs
    (fun f _ ha hne _ => archiveUpdateMany_np o pl ok f hne (List.getElem?_eq_some_iff.1 ha).1)
    (Frame.refl H h) fun _ _ => trivial).not_isPanic

/-- **UpdatePointForArchive never panics** for `k = -1` (best archive) or an id in the list -/
theorem updatePoint_np (o : FOps) {H total : Nat} (h : Handle) (pl : Placed h H total) (ok : HdrOK h)
    (hne : h.archs ≠ []) (k : Int) (hk : k = -1 ∨ (0 ≤ k ∧ k < h.archs.length)) (t : Nat) (v : Val) (now : Nat) :
    ¬ IsPanic (h.updatePoint o k t v now) :=
  (updatePoint_post (npRule o pl ok) (Frame.refl H h) (fun _ _ he => by cases he) (fun hn => absurd ⟨hne, hk⟩ hn)
    (fun a ha => .of_np store_np fun _ hs => store_frame (pl a (List.mem_of_getElem? ha)) hs)
    fun _ l _ _ => intervalForWrite_lt l _).not_isPanic

end Wsp
